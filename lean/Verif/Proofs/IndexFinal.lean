import Verif.Proofs.IndexViews
import Verif.Proofs.JsonLemmas

/-!
  The four index views (`refsWhere`, `patternsWhere`, `enumsWhere`, `schemas`) of the analyzer's log: each
  reads one table of `specLog`, and of that table the rows whose tag it selects.  `schemas` is carried to `analyze` in
  `C12.schemas_exact`.
-/

namespace IndexProof
open J Analyzer Spec.Index Str

/-- `leaf`: of what `E` emits for one position under `tag`, `g` yields `S q` if `p tag`, else nothing -/
theorem tagged_filterMap {β} (g : Ent → Option β) (E : String → String → J → List Ent) (S : Pos → Option β)
    (p : String → Bool)
    (leaf : ∀ tag q, (E tag (ptr q.1) q.2).filterMap g = if p tag = true then (S q).toList else [])
    (tbl : List (String × List Pos)) :
    (tagged E tbl).filterMap g = (tbl.filter fun tp => p tp.1).flatMap fun tp => tp.2.filterMap S := by
  rw [tagged, List.filterMap_flatMap, List.flatMap_filter']
  refine List.flatMap_congr' fun tp _ => ?_
  rw [List.filterMap_flatMap]
  simp only [leaf]
  split
  · exact (List.filterMap_eq_flatMap_toList ..).symm
  · exact List.flatMap_eq_nil_iff.2 fun _ _ => rfl

theorem tagged_filterMap_nil {β} (g : Ent → Option β) (E : String → String → J → List Ent)
    (h : ∀ tag k n, ∀ e ∈ E tag k n, g e = none) (tbl : List (String × List Pos)) :
    (tagged E tbl).filterMap g = [] := by
  refine List.filterMap_eq_nil_iff.2 fun e he => ?_
  obtain ⟨tp, _, he⟩ := List.mem_flatMap.1 he
  obtain ⟨q, _, he⟩ := List.mem_flatMap.1 he
  exact h _ _ _ e he

theorem refs_refEnt (p : String → Bool) (kind : String) (q : Pos) :
    Index.refsWhere p (refEnt kind (ptr q.1) q.2) =
      if p kind = true then
        (if Doc.refStr q.2 ≠ "" then some (key q.1, J.str (Doc.refStr q.2)) else none).toList
      else [] := by
  unfold Index.refsWhere refEnt key
  split <;> simp only [List.filterMap_cons, List.filterMap_nil] <;> cases p kind <;> rfl

theorem pats_patEnum (p : String → Bool) (cat : String) (q : Pos) :
    Index.patternsWhere p (patEnum cat (ptr q.1) q.2) =
      if p cat = true then
        (if q.2.getStr "pattern" ≠ "" then some (key q.1, J.str (q.2.getStr "pattern")) else none).toList
      else [] := by
  unfold Index.patternsWhere patEnum key
  rw [List.filterMap_append]
  -- the pattern half of `patEnum` gives the right-hand side, the enum half nothing
  refine (congr (congrArg _ ?_) ?_).trans (List.append_nil _)
  · split <;> simp only [List.filterMap_cons, List.filterMap_nil] <;> cases p cat <;> rfl
  · split <;> rfl

theorem enums_patEnum (p : String → Bool) (cat : String) (q : Pos) :
    Index.enumsWhere p (patEnum cat (ptr q.1) q.2) =
      if p cat = true then
        (match q.2.get? "enum" with
         | some (.arr (v :: vs)) => some (key q.1, J.arr (v :: vs))
         | _ => none).toList
      else [] := by
  unfold Index.enumsWhere patEnum key
  rw [List.filterMap_append]
  -- the pattern half gives nothing
  refine (congr (congrArg _ ?_) ?_).trans (List.nil_append _)
  · split <;> rfl
  · split
    next v vs he =>
      rw [he]
      simp only [List.filterMap_cons, List.filterMap_nil]
      cases p cat <;> rfl
    next hne =>
      -- `patEnum`'s `match` took its default arm, so the copy of that `match` in the statement cannot take its first
      split
      · split
        · exact absurd ‹_› (hne _ _)
        · rfl
      · rfl

theorem refs_specLog (p : String → Bool) (d : J) :
    Index.refsWhere p (specLog d) = ((refKinds d).filter fun kp => p kp.1).flatMap fun kp => refsOf kp.2 := by
  unfold specLog Index.refsWhere
  rw [List.filterMap_append, List.filterMap_append, tagged_filterMap _ _ _ p (refs_refEnt p),
    tagged_filterMap_nil _ patEnum, List.filterMap_map, List.filterMap_eq_nil_iff.2, List.nil_append,
    List.append_nil]
  · rfl
  · intro _ _; rfl
  · intro _ _ _ e he
    rcases mem_patEnum he with ⟨v, rfl⟩ | ⟨v, rfl⟩ <;> rfl

theorem patEnum_specLog {β} {g : Ent → Option β} {S : Pos → Option β} (p : String → Bool)
    (leaf : ∀ cat q, (patEnum cat (ptr q.1) q.2).filterMap g = if p cat = true then (S q).toList else [])
    (hs : ∀ q, g (schemaEnt q) = none) (hr : ∀ kind k r, g (.ref kind k r) = none) (d : J) :
    (specLog d).filterMap g = ((patCats d).filter fun cp => p cp.1).flatMap fun cp => cp.2.filterMap S := by
  unfold specLog
  rw [List.filterMap_append, List.filterMap_append, tagged_filterMap _ _ _ p leaf,
    tagged_filterMap_nil _ refEnt, List.filterMap_map, List.filterMap_eq_nil_iff.2, List.nil_append,
    List.nil_append]
  · intro _ _; exact hs _
  · intro _ _ _ e he
    rw [mem_refEnt he]
    exact hr _ _ _

theorem pats_specLog (p : String → Bool) (d : J) :
    Index.patternsWhere p (specLog d) =
      ((patCats d).filter fun cp => p cp.1).flatMap fun cp => patternsOf cp.2 :=
  patEnum_specLog p (pats_patEnum p) (fun _ => rfl) (fun _ _ _ => rfl) d

theorem enums_specLog (p : String → Bool) (d : J) :
    Index.enumsWhere p (specLog d) = ((patCats d).filter fun cp => p cp.1).flatMap fun cp => enumsOf cp.2 :=
  patEnum_specLog p (enums_patEnum p) (fun _ => rfl) (fun _ _ _ => rfl) d

theorem schemas_specLog (d : J) : Index.schemas (specLog d) = (allSchemas d).map schemaEntry := by
  unfold specLog Index.schemas
  rw [List.filterMap_append, List.filterMap_append, tagged_filterMap_nil _ refEnt,
    tagged_filterMap_nil _ patEnum, List.filterMap_map, List.append_nil, List.append_nil]
  · exact (List.filterMap_congr' fun _ _ => rfl).trans (congrFun List.filterMap_eq_map _)
  · intro _ _ _ e he
    rcases mem_patEnum he with ⟨v, rfl⟩ | ⟨v, rfl⟩ <;> rfl
  · intro _ _ _ e he
    rw [mem_refEnt he]

theorem mem_mapOf_mem (xs : List (String × J)) (kv : String × J) (h : kv ∈ Index.mapOf xs) : kv ∈ xs := by
  have key : ∀ (l acc : List (String × J)), kv ∈ l.foldl (fun acc kv => setKv kv.1 kv.2 acc) acc →
      kv ∈ acc ∨ kv ∈ l := by
    intro l
    induction l with
    | nil => exact fun _ h => .inl h
    | cons a rest ih =>
      intro acc h
      rcases ih _ h with h' | h'
      · rcases mem_setKv h' with rfl | h'
        · exact .inr List.mem_cons_self
        · exact .inl h'
      · exact .inr (List.mem_cons_of_mem _ h')
  simpa using key xs [] h

/-- the `filter` / `flatMap` form over `refKinds` written out (`refsSpec_eq`), for `C11.itemsRefs_exact`: at a two-kind
    predicate `simp` decides the six `if`s -/
def refsSpec (p : String → Bool) (d : J) : List (String × J) :=
  (if p "schema" = true then refsOf (allSchemas d) else []) ++
  (if p "response" = true then refsOf (opResponses d) else []) ++
  (if p "parameter" = true then refsOf (listedParams d) else []) ++
  (if p "pathItem" = true then refsOf (pathItemPositions d) else []) ++
  (if p "items:header" = true then refsOf (headerItems d) else []) ++
  (if p "items:parameter" = true then refsOf (paramItems d) else [])

theorem refsSpec_eq (p : String → Bool) (d : J) :
    refsSpec p d = ((refKinds d).filter fun kp => p kp.1).flatMap fun kp => refsOf kp.2 := by
  simp only [refsSpec, refKinds, List.flatMap_filter', List.flatMap_cons, List.flatMap_nil, List.append_nil,
    List.append_assoc]

variable (f : Facts)
  (hm : f.analyzerMethods.Perm (Doc.methods.map fun m => (Str.toUpperAscii m, m)))
  (hd : f.defaultHeaderEnums = true) (d : J) (h : WF' d)

include hm hd h

theorem refsWhere_perm (p : String → Bool) :
    (Index.refsWhere p (analyze f d)).Perm (refsSpec p d) := by
  rw [refsSpec_eq, ← refs_specLog]
  exact view_perm (analyze_perm_specLog f hm hd d h) _ fun e he => by cases e <;> first | rfl | cases he

theorem patternsWhere_perm (p : String → Bool) :
    (Index.patternsWhere p (analyze f d)).Perm
      (((patCats d).filter fun cp => p cp.1).flatMap fun cp => patternsOf cp.2) := by
  rw [← pats_specLog]
  exact view_perm (analyze_perm_specLog f hm hd d h) _ fun e he => by cases e <;> first | rfl | cases he

theorem enumsWhere_perm (p : String → Bool) :
    (Index.enumsWhere p (analyze f d)).Perm
      (((patCats d).filter fun cp => p cp.1).flatMap fun cp => enumsOf cp.2) := by
  rw [← enums_specLog]
  exact view_perm (analyze_perm_specLog f hm hd d h) _ fun e he => by cases e <;> first | rfl | cases he

end IndexProof
