import Verif.Model.KeysApart
import Verif.Proofs.Replace

/-!
  `UpdateRef` at two different positions commutes (C07): `updR_comm`, about the recursion `updR` that
  `updateRef_ok_iff` ties to `Replace.updateRef`.  `replace.UpdateRef` sets the `$ref` of the schema a key designates
  and leaves everything else of that schema in place, so two updates commute also when one position lies *inside* the
  other.  "Different positions" is stated on the token paths alone: they must differ even when decimal numerals are
  read as numbers (`"7"` and `"07"` designate the same element of an array).
-/

namespace Proofs.UpdateComm
open J Replace

/-- `UpdateRef` from a node `j` of kind `k` along a token path: `some` of the rewritten node exactly when
    the path resolves to a schema -/
def updR (r : String) : Kind → J → List String → Option J
  | k, j, [] => if isSchemaKind k then some (j.set "$ref" (.str r)) else none
  | k, j, t :: ts =>
    match j with
    | .obj kvs =>
      (match lookup t kvs with
       | some c => (updR r (childKind k j t) c ts).map fun c' => .obj (setKv t c' kvs)
       | none => none)
    | .arr xs =>
      (match Spec.Pointer.natOfDigits t.toList with
       | some i => (match xs[i]? with
          | some c => (updR r (childKind k j t) c ts).map fun c' => .arr (xs.set i c')
          | none => none)
       | none => none)
    | _ => none

theorem step_obj (kvs : List (String × J)) (t : String) : Spec.Pointer.step (.obj kvs) t = lookup t kvs := rfl

theorem step_arr (xs : List J) (t : String) :
    Spec.Pointer.step (.arr xs) t = (Spec.Pointer.natOfDigits t.toList).bind fun i => xs[i]? := rfl

theorem updR_cons (r : String) (k : Kind) (j : J) (t : String) (ts : List String) :
    updR r k j (t :: ts) =
      (Spec.Pointer.step j t).bind fun c => (updR r (childKind k j t) c ts).map (setChild j t) := by
  cases j with
  | obj kvs => simp only [updR, step_obj]; cases lookup t kvs <;> rfl
  | arr xs =>
    cases hn : Spec.Pointer.natOfDigits t.toList with
    | none => simp only [updR, step_arr, hn]; rfl
    | some i => simp only [updR, step_arr, hn, setChild_arr xs hn, Option.bind_some]; cases xs[i]? <;> rfl
  | _ => rfl

theorem updR_spec (r : String) : ∀ (toks : List String) (k : Kind) (j : J),
    updR r k j toks =
      (match walk k j toks with
       | some (node, kind) => if isSchemaKind kind then setAt j toks (node.set "$ref" (.str r)) else none
       | none => none) := by
  intro toks
  induction toks with
  | nil => intro k j; rfl
  | cons t ts ih =>
    intro k j
    simp only [updR_cons, walk, setAt_cons]
    cases Spec.Pointer.step j t with
    | none => rfl
    | some c =>
      simp only [Option.bind_some, ih]
      cases walk (childKind k j t) c ts with
      | none => rfl
      | some nk => dsimp only; split <;> rfl

theorem updR_eq_some {r : String} {k : Kind} {j j' : J} {toks : List String} : updR r k j toks = some j' ↔
    ∃ node kind, walk k j toks = some (node, kind) ∧ isSchemaKind kind = true ∧
      setAt j toks (node.set "$ref" (.str r)) = some j' := by
  rw [updR_spec]
  cases walk k j toks with
  | none => simp
  | some nk =>
    obtain ⟨node, kind⟩ := nk
    simp only [exists_some_pair_iff]
    cases isSchemaKind kind <;> simp

theorem updateRef_ok_iff (d : J) (key ref : String) (d' : J) :
    updateRef d key ref = .ok d' ↔ updR ref .swagger d (keyTokens key) = some d' :=
  updateRef_ok.trans updR_eq_some.symm

theorem natOfDigits_ref : Spec.Pointer.natOfDigits "$ref".toList = none := by decide

/-- what `childKind` can tell of a member: an object, an array, or anything else (also an absent member) -/
inductive Shape
  | obj | arr | other

def shape : Option J → Shape
  | some (.obj _) => .obj
  | some (.arr _) => .arr
  | _ => .other

def schemaChild (sh : Shape) (t : String) : Kind :=
  if t = "properties" ∨ t = "patternProperties" ∨ t = "definitions" then .schemaMap
  else if t = "allOf" ∨ t = "anyOf" ∨ t = "oneOf" then .schemaArr
  else if t = "not" then .notPtr
  else if t = "additionalProperties" ∨ t = "additionalItems" then
    (match sh with | .obj => .schemaOrBool | _ => .other)
  else if t = "items" then
    (match sh with | .obj => .schemaOrArray | .arr => .schemaArr | .other => .other)
  else .other

theorem childKind_shape (j : J) (t : String) : childKind .schemaVal j t = schemaChild (shape (j.get? t)) t := by
  rw [childKind_schemaVal]
  generalize j.get? t = a
  rcases a with _ | (_ | _ | _ | _ | _ | _) <;> rfl

theorem childKind_nonschema (k : Kind) (hk : isSchemaKind k = false) (j j' : J) (t : String) :
    childKind k j t = childKind k j' t := by
  cases k <;> first | (cases hk; done) | rfl

theorem childKind_congr (k : Kind) {j j' : J} {t : String} (h : shape (j.get? t) = shape (j'.get? t)) :
    childKind k j t = childKind k j' t := by
  cases hk : isSchemaKind k with
  | false => exact childKind_nonschema k hk j j' t
  | true => rw [childKind_schema hk, childKind_schema hk, childKind_shape, childKind_shape, h]

theorem shape_setChild (j : J) (t : String) (c : J) : shape (some (setChild j t c)) = shape (some j) := by
  cases j with
  | arr xs => cases hn : Spec.Pointer.natOfDigits t.toList <;> simp only [setChild, hn] <;> rfl
  | _ => rfl

theorem childKind_setChild_ne (k : Kind) (j : J) {t u : String} (h : t ≠ u) (c' : J) :
    childKind k (setChild j t c') u = childKind k j u := by
  refine childKind_congr k (congrArg shape ?_)
  cases j with
  | obj kvs => exact lookup_setKv_ne t u c' kvs h.symm
  | arr xs => cases hn : Spec.Pointer.natOfDigits t.toList <;> simp only [setChild, hn] <;> rfl
  | _ => rfl

theorem childKind_setChild_self (k : Kind) {j : J} {t : String} {c c' : J} (hc : Spec.Pointer.step j t = some c)
    (ht : shape (some c') = shape (some c)) : childKind k (setChild j t c') t = childKind k j t := by
  refine childKind_congr k ?_
  cases j with
  | obj kvs => rw [step_obj] at hc; simp only [setChild, J.get?, lookup_setKv_self, ht, hc]
  | arr xs => cases hn : Spec.Pointer.natOfDigits t.toList <;> simp only [setChild, hn] <;> rfl
  | _ => rfl

theorem childKind_ref {k : Kind} (hk : isSchemaKind k = true) (j : J) : childKind k j "$ref" = .other := by
  rw [childKind_schema hk, childKind_schemaVal]; simp

theorem updR_other (r : String) : ∀ (ts : List String) (j : J), updR r .other j ts = none := by
  intro ts
  induction ts with
  | nil => intro j; rfl
  | cons t ts ih =>
    intro j
    rw [updR_cons]
    cases Spec.Pointer.step j t with
    | none => rfl
    | some c => simp only [Option.bind_some, childKind, ih]; rfl

theorem updR_ref (r : String) {k : Kind} (hk : isSchemaKind k = true) (j : J) (ts : List String) :
    updR r k j ("$ref" :: ts) = none := by
  rw [updR_cons, childKind_ref hk]
  cases Spec.Pointer.step j "$ref" with
  | none => rfl
  | some c => simp only [Option.bind_some, updR_other]; rfl

theorem updR_nil_eq_some {r : String} {k : Kind} {j j' : J} :
    updR r k j [] = some j' ↔ isSchemaKind k = true ∧ setChild j "$ref" (.str r) = j' := by
  simp [updR, set_eq_setChild natOfDigits_ref]

theorem updR_cons_eq_some {r : String} {k : Kind} {j : J} {t : String} {ts : List String} {j' : J} :
    updR r k j (t :: ts) = some j' ↔
      ∃ c c', Spec.Pointer.step j t = some c ∧ updR r (childKind k j t) c ts = some c' ∧ setChild j t c' = j' := by
  rw [updR_cons]
  cases Spec.Pointer.step j t <;> simp

theorem updR_shape {r : String} {ts : List String} {k : Kind} {j j' : J} (h : updR r k j ts = some j') :
    shape (some j') = shape (some j) := by
  cases ts with
  | nil => obtain ⟨_, rfl⟩ := updR_nil_eq_some.1 h; exact shape_setChild j _ _
  | cons t ts => obtain ⟨c, c', _, _, rfl⟩ := updR_cons_eq_some.1 h; exact shape_setChild j _ _

theorem updR_setChild_apart (r : String) (k : Kind) (j : J) {t u : String} (h : TokApart t u) (c' : J)
    (us : List String) :
    updR r k (setChild j t c') (u :: us) = (updR r k j (u :: us)).map fun j2 => setChild j2 t c' := by
  rw [updR_cons, updR_cons, step_setChild_apart h, childKind_setChild_ne k j h.1]
  cases hu : Spec.Pointer.step j u with
  | none => rfl
  | some cu =>
    simp only [Option.bind_some, Option.map_map]
    congr 1
    funext x
    exact setChild_comm h hu c' x

theorem updR_setChild_self (r : String) (k : Kind) {j : J} {t : String} {c c' : J}
    (hc : Spec.Pointer.step j t = some c) (ht : shape (some c') = shape (some c)) (us : List String) :
    updR r k (setChild j t c') (t :: us) = (updR r (childKind k j t) c' us).map (setChild j t) := by
  rw [updR_cons, step_setChild_self hc, childKind_setChild_self k hc ht, Option.bind_some]
  congr 1
  funext x
  exact setChild_setChild j t c' x

/-- two token paths that designate different positions whatever the document: one is a proper prefix of the
    other, or after a common prefix they continue with tokens that differ also when read as numerals (`diff` carries
    the two halves of `Replace.TokApart`) -/
inductive PosDistinct : List String → List String → Prop
  | nil_cons (u : String) (us : List String) : PosDistinct [] (u :: us)
  | cons_nil (t : String) (ts : List String) : PosDistinct (t :: ts) []
  | same (t : String) {ts us : List String} : PosDistinct ts us → PosDistinct (t :: ts) (t :: us)
  | diff {t u : String} (ts us : List String) (hne : t ≠ u)
      (hnum : ∀ i, Spec.Pointer.natOfDigits t.toList = some i → Spec.Pointer.natOfDigits u.toList ≠ some i) :
      PosDistinct (t :: ts) (u :: us)

theorem PosDistinct.symm {p q : List String} (h : PosDistinct p q) : PosDistinct q p := by
  induction h with
  | nil_cons u us => exact .cons_nil u us
  | cons_nil t ts => exact .nil_cons t ts
  | same t _ ih => exact .same t ih
  | diff ts us hne hnum => exact .diff us ts hne.symm (fun i hu ht => hnum i ht hu)

theorem updR_comm (r1 r2 : String) : ∀ (p q : List String) (k : Kind) (j j1 j12 : J),
    PosDistinct p q → updR r1 k j p = some j1 → updR r2 k j1 q = some j12 →
    ∃ j2, updR r2 k j q = some j2 ∧ updR r1 k j2 p = some j12 := by
  intro p q k j j1 j12 hd
  induction hd generalizing k j j1 j12 with
  | nil_cons u us =>
    -- the first update is at the node itself: a write to its member `$ref`
    intro h1 h2
    obtain ⟨hk, rfl⟩ := updR_nil_eq_some.1 h1
    by_cases hu : u = "$ref"
    · rw [hu, updR_ref r2 hk] at h2; cases h2
    · rw [updR_setChild_apart r2 k j (.of_not_numeral natOfDigits_ref (Ne.symm hu))] at h2
      obtain ⟨j2, hj2, rfl⟩ := Option.map_eq_some_iff.1 h2
      exact ⟨j2, hj2, updR_nil_eq_some.2 ⟨hk, rfl⟩⟩
  | cons_nil t ts =>
    -- as `nil_cons`, the node's own `$ref` being written second
    intro h1 h2
    obtain ⟨hk, rfl⟩ := updR_nil_eq_some.1 h2
    have ht : t ≠ "$ref" := fun e => by rw [e, updR_ref r1 hk] at h1; cases h1
    exact ⟨_, updR_nil_eq_some.2 ⟨hk, rfl⟩, by rw [updR_setChild_apart r1 k j (.of_not_numeral natOfDigits_ref (Ne.symm ht)), h1]; rfl⟩
  | same t _ ih =>
    -- both paths enter member `t`; the second update reads the kind of `t` off the holder the first has rewritten:
    -- the same kind, since an update keeps the shape of what it rewrites (`updR_shape`)
    intro h1 h2
    obtain ⟨c, c1, hc, hc1, rfl⟩ := updR_cons_eq_some.1 h1
    rw [updR_setChild_self r2 k hc (updR_shape hc1)] at h2
    obtain ⟨c12, hc12, rfl⟩ := Option.map_eq_some_iff.1 h2
    obtain ⟨c2, hc2, hc21⟩ := ih _ c c1 c12 hc1 hc12
    exact ⟨_, updR_cons_eq_some.2 ⟨c, c2, hc, hc2, rfl⟩, by rw [updR_setChild_self r1 k hc (updR_shape hc2), hc21]; rfl⟩
  | diff ts us hne hnum =>
    intro h1 h2
    have h : TokApart _ _ := ⟨hne, hnum⟩
    obtain ⟨c, c1, _, _, rfl⟩ := updR_cons_eq_some.1 h1
    rw [updR_setChild_apart r2 k j h] at h2
    obtain ⟨j2, hj2, rfl⟩ := Option.map_eq_some_iff.1 h2
    obtain ⟨cu, cu2, hcu, _, rfl⟩ := updR_cons_eq_some.1 hj2
    exact ⟨_, hj2, by rw [updR_setChild_apart r1 k j h.symm, h1, Option.map_some, setChild_comm h hcu]⟩

/-- the relation between two entries of a reference map under which their updates commute -/
def KeysApart (a b : String × String) : Prop := PosDistinct (keyTokens a.1) (keyTokens b.1)

/-- whether two paths are apart is decided at the first token where they differ -/
theorem PosDistinct.of_first_diff {P : List String → List String → Prop} (hnil : ¬ P [] [])
    (hsame : ∀ {t ts us}, P (t :: ts) (t :: us) → P ts us)
    (hdiff : ∀ {t u ts us}, t ≠ u → P (t :: ts) (u :: us) →
      ∀ i, Spec.Pointer.natOfDigits t.toList = some i → Spec.Pointer.natOfDigits u.toList ≠ some i) :
    ∀ {p q : List String}, P p q → PosDistinct p q := by
  intro p
  induction p with
  | nil =>
    intro q h
    cases q with
    | nil => exact absurd h hnil
    | cons u us => exact .nil_cons u us
  | cons t ts ih =>
    intro q h
    cases q with
    | nil => exact .cons_nil t ts
    | cons u us =>
      by_cases htu : t = u
      · subst htu; exact .same t (ih (hsame h))
      · exact .diff ts us htu (hdiff htu h)

/-- `PosDistinct` holds whenever the token paths are different and spell their numerals canonically (`"7"`, not
    `"07"`): array indices written by the analyzer (`strconv.Itoa`) always do -/
theorem posDistinct_of_ne_canon (p q : List String) (hne : p ≠ q) (hp : ∀ t ∈ p, Proofs.MoveBase.CanonTok t)
    (hq : ∀ t ∈ q, Proofs.MoveBase.CanonTok t) : PosDistinct p q := by
  refine PosDistinct.of_first_diff
    (P := fun p q => p ≠ q ∧ (∀ t ∈ p, Proofs.MoveBase.CanonTok t) ∧ ∀ t ∈ q, Proofs.MoveBase.CanonTok t)
    (fun h => h.1 rfl) ?_ ?_ ⟨hne, hp, hq⟩
  · rintro t ts us ⟨hne, hp, hq⟩
    exact ⟨fun e => hne (e ▸ rfl), fun x hx => hp x (List.mem_cons_of_mem _ hx), fun x hx => hq x (List.mem_cons_of_mem _ hx)⟩
  · rintro t u ts us htu ⟨_, hp, hq⟩ i hi hu
    exact (TokApart.of_canon (hp t List.mem_cons_self) (hq u List.mem_cons_self) htu).2 i hi hu

theorem posDistinctB_sound (p q : List String) : posDistinctB p q = true → PosDistinct p q := by
  refine PosDistinct.of_first_diff (P := fun p q => posDistinctB p q = true) (by simp [posDistinctB]) ?_ ?_
  · intro t ts us h; simpa [posDistinctB] using h
  · intro t u ts us htu h i hi hu; simp [posDistinctB, htu, aliasNum, hi, hu] at h

theorem keysApartB_sound : ∀ (l : List (String × String)), keysApartB l = true → l.Pairwise KeysApart := by
  intro l
  induction l with
  | nil => intro _; exact List.Pairwise.nil
  | cons a rest ih =>
    intro h
    simp only [keysApartB, Bool.and_eq_true, List.all_eq_true] at h
    exact List.pairwise_cons.2 ⟨fun b hb => posDistinctB_sound _ _ (h.1 b hb), ih h.2⟩

end Proofs.UpdateComm
