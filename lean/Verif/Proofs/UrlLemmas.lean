import Verif.Model.Str

/-! `url.PathUnescape` is the identity on strings without a percent byte -/

namespace UrlLemmas

theorem byteArray_toList_loop (ba : ByteArray) (i : Nat) (r : List UInt8) :
    ByteArray.toList.loop ba i r = r.reverse ++ ba.data.toList.drop i := by
  fun_induction ByteArray.toList.loop ba i r with
  | case1 i r hi ih =>
    have hlen : i < ba.data.toList.length := by simpa using hi
    have hget : ba.get! i = ba.data.toList[i] := by
      show ba.data[i]! = _
      rw [getElem!_pos ba.data i hi, Array.getElem_toList]
    rw [ih, List.drop_eq_getElem_cons hlen, List.reverse_cons, List.append_assoc, hget]
    rfl
  | case2 i r hi =>
    rw [List.drop_eq_nil_of_le (by simpa using Nat.le_of_not_lt hi), List.append_nil]

theorem byteArray_toList (ba : ByteArray) : ba.toList = ba.data.toList := by
  unfold ByteArray.toList
  rw [byteArray_toList_loop ba 0 []]
  simp

theorem fromUTF8?_toUTF8 (s : String) : String.fromUTF8? s.toUTF8 = some s := by
  unfold String.fromUTF8? String.toUTF8
  rw [dif_pos s.isValidUTF8]
  rfl

theorem unescBytes_plain (bs : List UInt8) (h : (37 : UInt8) ∉ bs) : Str.unescBytes bs = some bs := by
  fun_induction Str.unescBytes bs with
  | case1 => rfl
  | case5 c rest _ _ ih => rw [ih fun e => h (List.mem_cons_of_mem _ e)]; rfl
  -- the other cases start with a percent byte
  | _ => exact absurd List.mem_cons_self h

theorem pathUnescape_plain (s : String) (h : (37 : UInt8) ∉ s.toUTF8.toList) : Str.pathUnescape s = some s := by
  unfold Str.pathUnescape
  rw [unescBytes_plain _ h]
  simp only [Option.bind_some]
  rw [byteArray_toList]
  exact fromUTF8?_toUTF8 s

end UrlLemmas
