import Verif.Model.RemoveUnused
import Verif.Proofs.JsonLemmas

/-!
  Lemmas on the model of the RemoveUnused phases (Verif/Model/RemoveUnused.lean): the two outcomes of
  a single pass, termination of the removal loop and what it keeps.
-/

namespace Proofs.RemoveUnused
open J _root_.RemoveUnused

theorem get?_removeShared_parameters (d : J) : (removeShared d).get? "parameters" = none := by
  simp [removeShared, get?_erase]

theorem get?_removeShared_responses (d : J) : (removeShared d).get? "responses" = none := by
  simp [removeShared, get?_erase]

theorem get?_removeShared_ne (d : J) (k : String) (h1 : k ≠ "parameters") (h2 : k ≠ "responses") :
    (removeShared d).get? k = d.get? k := by
  simp [removeShared, get?_erase, h1.symm, h2.symm]

def keep (f : Facts) (x : Ext) (d : J) : List (String × J) :=
  (d.getObj "definitions").filter fun kv => (usedNames f x d).contains kv.1

theorem singlePass_eq (f : Facts) (x : Ext) (d : J) :
    singlePass f x d =
      if (keep f x d).length = (d.getObj "definitions").length then (d, false)
      else (d.set "definitions" (.obj (keep f x d)), true) := rfl

theorem singlePass_false (f : Facts) (x : Ext) (d : J) (h : (singlePass f x d).2 = false) :
    (singlePass f x d).1 = d ∧ keep f x d = d.getObj "definitions" := by
  rw [singlePass_eq] at h ⊢
  split at h
  · rename_i e
    rw [if_pos e]
    exact ⟨rfl, List.filter_eq_self.2 (List.length_filter_eq_length_iff.1 e)⟩
  · cases h

theorem singlePass_true (f : Facts) (x : Ext) (d : J) (h : (singlePass f x d).2 = true) :
    d.isObj = true ∧ (singlePass f x d).1 = d.set "definitions" (.obj (keep f x d)) ∧
    (keep f x d).length < (d.getObj "definitions").length := by
  rw [singlePass_eq] at h ⊢
  split at h
  · cases h
  · rename_i e
    rw [if_neg e]
    refine ⟨?_, rfl, ?_⟩
    · cases hd : d.isObj
      · exfalso; apply e
        simp [keep, J.getObj_of_not_obj d _ hd]
      · rfl
    · have := List.length_filter_le (fun kv => (usedNames f x d).contains kv.1) (d.getObj "definitions")
      unfold keep at e ⊢
      omega

theorem singlePass_getObj (f : Facts) (x : Ext) (d : J) :
    (singlePass f x d).1.getObj "definitions" = keep f x d := by
  cases h : (singlePass f x d).2
  · obtain ⟨h1, h2⟩ := singlePass_false f x d h
    rw [h1, h2]
  · obtain ⟨h1, h2, _⟩ := singlePass_true f x d h
    rw [h2, J.getObj_set_self d _ _ h1]

theorem singlePass_get?_ne (f : Facts) (x : Ext) (d : J) (k : String) (hk : k ≠ "definitions") :
    (singlePass f x d).1.get? k = d.get? k := by
  rw [singlePass_eq]
  split
  · rfl
  · exact get?_set_ne d _ _ _ hk

/-- every productive pass removes a definition -/
theorem removeUnused_terminates (f : Facts) (x : Ext) (fuel : Nat) (d : J)
    (h : fuel ≥ (d.getObj "definitions").length + 1) : ∃ d', removeUnused f x fuel d = .ok d' := by
  fun_induction removeUnused f x fuel d with
  | case1 => omega
  | case2 fuel d r hp ih =>
    apply ih
    have := (singlePass_true f x d hp).2.2
    rw [singlePass_getObj]
    omega
  | case3 fuel d r hp => exact ⟨_, rfl⟩

theorem removeUnused_inv (f : Facts) (x : Ext) {P : J → Prop} (hP : ∀ d, P d → P (singlePass f x d).1)
    (fuel : Nat) (d d' : J) (h : removeUnused f x fuel d = .ok d') (hp : P d) :
    P d' ∧ (singlePass f x d').2 = false := by
  fun_induction removeUnused f x fuel d with
  | case1 => cases h
  | case2 fuel d r hr ih => exact ih h (hP d hp)
  | case3 fuel d r hr =>
    cases h
    rw [(singlePass_false f x d (by simpa using hr)).1]
    exact ⟨hp, by simpa using hr⟩

theorem removeUnused_ok (f : Facts) (x : Ext) (fuel : Nat) (d d' : J) (h : removeUnused f x fuel d = .ok d') :
    keep f x d' = d'.getObj "definitions" ∧
    (d'.getObj "definitions").Sublist (d.getObj "definitions") ∧
    ∀ k, k ≠ "definitions" → d'.get? k = d.get? k := by
  have := removeUnused_inv f x (P := fun d' => (d'.getObj "definitions").Sublist (d.getObj "definitions") ∧
    ∀ k, k ≠ "definitions" → d'.get? k = d.get? k) ?_ fuel d d' h ⟨.refl _, fun _ _ => rfl⟩
  · exact ⟨(singlePass_false f x d' this.2).2, this.1⟩
  · intro d1 ⟨h1, h2⟩
    refine ⟨?_, fun k hk => (singlePass_get?_ne f x d1 k hk).trans (h2 k hk)⟩
    rw [singlePass_getObj]
    exact List.filter_sublist.trans h1

end Proofs.RemoveUnused
