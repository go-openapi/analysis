import Verif.Model.Names
import Verif.Proofs.ListLemmas

/-!
  Lemmas on the model of `uniqifyName` (Verif/Model/Names.lean): what `search` returns, why a
  returned candidate differs from the requested name, and the pigeonhole argument for termination.
-/

namespace Proofs.Names
open _root_.Names

theorem knownFold_nil (x : Ext) (c : String) : knownFold x [] c = false := rfl

theorem search_some (known : String → Bool) (base : String) (fuel i : Nat) (u : String)
    (h : search known base fuel i = some u) : known u = false ∧ ∃ j, u = candidate base j := by
  fun_induction search known base fuel i with
  | case1 => cases h
  | case2 fuel i hk ih => exact ih h
  | case3 fuel i hk =>
    cases h
    exact ⟨by simpa using hk, i, rfl⟩

theorem search_none_known (known : String → Bool) (base : String) (fuel i : Nat)
    (h : search known base fuel i = none) : ∀ j, j < fuel → known (candidate base (i + j)) = true := by
  fun_induction search known base fuel i with
  | case1 => intro j hj; omega
  | case2 fuel i hk ih =>
    intro j hj
    cases j with
    | zero => exact hk
    | succ j =>
      have := ih h j (by omega)
      rwa [show i + (j + 1) = i + 1 + j by omega]
  | case3 => cases h

theorem candidate_length_ge (base : String) (i : Nat) : base.length ≤ (candidate base i).length := by
  unfold candidate
  split
  · exact Nat.le_refl _
  · rw [String.length_append]; omega

/-- every candidate built on `name ++ "OAIGen"` is longer than `name`, hence different from it -/
theorem candidate_ne (name : String) (i : Nat) : candidate (name ++ "OAIGen") i ≠ name := by
  intro h
  have h1 := candidate_length_ge (name ++ "OAIGen") i
  rw [h, String.length_append] at h1
  have : "OAIGen".length = 6 := by decide
  omega

/-- the exits of `uniqifyName`, in the order of its definition -/
theorem uniqifyName_cases (f : Facts) (x : Ext) (defs : List String) (name : String) (fuel : Nat) :
    let start : String × Bool := if name = "" then ("oaiGen", true) else (name, false)
    let found := search (if f.uniqifyCaseInsensitive then knownFold x defs else knownExact defs)
      (start.1 ++ "OAIGen") fuel 0
    (uniqifyName f x defs name fuel = .ok start ∧ (defs = [] ∨ knownFold x defs start.1 = false)) ∨
    (∃ u, uniqifyName f x defs name fuel = .ok (u, true) ∧ found = some u) ∨
    (uniqifyName f x defs name fuel = .outOfFuel ∧ found = none) := by
  fun_cases uniqifyName f x defs name fuel
  case case1 he => exact .inl ⟨rfl, .inl (by simpa using he)⟩
  case case2 hk => exact .inl ⟨rfl, .inr (by simpa using hk)⟩
  case case3 u hs => exact .inr (.inl ⟨u, rfl, hs⟩)
  case case4 hs => exact .inr (.inr ⟨rfl, hs⟩)

theorem mem_of_knownFold (x : Ext) (defs : List String) (c : String) (h : knownFold x defs c = true) :
    x.fold c ∈ defs.map x.fold := by
  unfold knownFold at h
  simp only [List.any_eq_true, beq_iff_eq] at h
  obtain ⟨k, hk, e⟩ := h
  exact e ▸ List.mem_map_of_mem hk

theorem search_fold_ne_none (x : Ext) (defs : List String) (base : String) (fuel : Nat)
    (hfuel : fuel ≥ defs.length + 1)
    (hinj : ∀ i j, i ≤ defs.length → j ≤ defs.length →
      x.fold (candidate base i) = x.fold (candidate base j) → i = j) :
    search (knownFold x defs) base fuel 0 ≠ none := by
  intro h
  have hk := search_none_known _ _ _ _ h
  apply List.pigeonhole (defs.map x.fold) (candidate base) x.fold
  · simpa using hinj
  · intro j hj
    simp only [List.length_map] at hj
    have := hk j (by omega)
    rw [Nat.zero_add] at this
    exact mem_of_knownFold x defs _ this

end Proofs.Names
