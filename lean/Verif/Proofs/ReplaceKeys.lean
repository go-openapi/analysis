import Verif.Proofs.Replace
import Verif.Proofs.Pointer

/-!
  C04 and C12 `resolves`: every schema key the analyzer hands out resolves, through the walk
  `internal/flatten/replace` performs (`getPointerFromKey` / `getParentFromKey` + the switch on the dynamic Go type of
  what is found), to that very schema *with a schema kind*, so the three rewrite primitives succeed on it.

  `KRes d toks j k`: the node `j` is reached from the document along `toks`, `Replace.walk` assigns it the kind `k`,
  and it has distinct keys.  The lemmas follow the traversal `Spec.Index.allSchemas`.  C12's `resolves` is what is left
  of the result when the kind is forgotten.  Namespace `ReplaceKeys` begins in Replace.lean.
-/

namespace ReplaceKeys
open J Spec.Index IndexProof PointerProof Replace C12

def KRes (d : J) (toks : List String) (j : J) (k : Kind) : Prop :=
  walk .swagger d toks = some (j, k) ∧ NodupKeys j

theorem KRes.root {d : J} (hd : NodupKeys d) : KRes d [] d .swagger := ⟨rfl, hd⟩

theorem KRes.step {d : J} {toks : List String} {j : J} {k : Kind} (h : KRes d toks j k) {t : String} {c : J}
    (hs : Spec.Pointer.step j t = some c) : KRes d (toks ++ [t]) c (childKind k j t) := by
  refine ⟨?_, h.2.step hs⟩
  rw [walk_snoc, h.1]
  simp [hs]

theorem KRes.mem {d : J} {toks : List String} {kvs : List (String × J)} {k : Kind}
    (h : KRes d toks (.obj kvs) k) {kv : String × J} (hkv : kv ∈ kvs) :
    KRes d (toks ++ [kv.1]) kv.2 (childKind k (.obj kvs) kv.1) :=
  h.step (step_of_mem h.2.obj_inv.1 hkv)

theorem KRes.get? {d : J} {toks : List String} {j : J} {k : Kind} (h : KRes d toks j k) {key : String} {v : J}
    (hv : j.get? key = some v) : KRes d (toks ++ [key]) v (childKind k j key) :=
  h.step (step_of_get? hv)

theorem KRes.getObj {d : J} {toks : List String} {j : J} {k k' : Kind} (h : KRes d toks j k) {key : String}
    {kv : String × J} (hkv : kv ∈ j.getObj key) (hk : ∀ m, childKind (childKind k j key) (.obj m) kv.1 = k') :
    KRes d (toks ++ [key, kv.1]) kv.2 k' := by
  obtain ⟨m, hg, e⟩ := getObj_of_mem hkv
  have := (h.get? hg).mem (e ▸ hkv)
  rw [hk] at this
  simpa using this

theorem KRes.getArr {d : J} {toks : List String} {j : J} {k k' : Kind} (h : KRes d toks j k) {key : String}
    {ip : Nat × J} (hip : ip ∈ indexed (j.getArr key)) (hk : ∀ xs t, childKind (childKind k j key) (.arr xs) t = k') :
    KRes d (toks ++ [key, toString ip.1]) ip.2 k' := by
  have hx := getElem?_of_mem_indexed hip
  obtain ⟨xs, hg, e⟩ := getArr_of_mem (List.mem_of_getElem? hx)
  have := (h.get? hg).step (step_of_getElem? (e ▸ hx))
  rw [hk] at this
  simpa using this

/-- a schema kind, and `notPtr` only under `not` (`C04.rewriteSchemaToRef_succeeds` needs the latter) -/
def SK (toks : List String) (k : Kind) : Prop :=
  isSchemaKind k = true ∧ (k = .notPtr → toks.getLast? = some "not")

theorem SK.of_ne {toks : List String} {k : Kind} (hk : isSchemaKind k = true) (hn : k ≠ .notPtr) : SK toks k :=
  ⟨hk, fun h => absurd h hn⟩

theorem childKind_map {j : J} {t : String} (ht : mapKeywords.contains t = true) :
    childKind .schemaVal j t = .schemaMap := by
  rcases mapKeywords_iff.1 ht with rfl | rfl | rfl <;> simp [childKind_schemaVal]

theorem childKind_arr {j : J} {t : String} {xs : List J} (ht : arrKeywords.contains t = true ∨ t = "items")
    (hg : j.get? t = some (.arr xs)) : childKind .schemaVal j t = .schemaArr := by
  rcases ht.imp_left arrKeywords_iff.1 with (rfl | rfl | rfl) | rfl <;> simp [childKind_schemaVal, hg]

theorem childKind_one {toks : List String} {j : J} {t : String} {m : List (String × J)}
    (ht : t = "not" ∨ t = "additionalProperties" ∨ t = "additionalItems" ∨ t = "items")
    (hg : j.get? t = some (.obj m)) : SK (toks ++ [t]) (childKind .schemaVal j t) := by
  rcases ht with rfl | rfl | rfl | rfl <;> simp [SK, childKind_schemaVal, hg, isSchemaKind]

theorem kres_schemasAt (d : J) : ∀ (j : J) (toks : List String) (k : Kind), KRes d toks j k → SK toks k →
    ∀ p ∈ schemasAt toks j, ∃ k', KRes d p.1 p.2 k' ∧ SK p.1 k' := by
  intro j
  induction j using J.strongInduction with
  | h j ih =>
    intro toks k hr hk p hp
    cases j with
    | obj kvs =>
      rw [schemasAt_obj, List.mem_cons, List.mem_flatMap] at hp
      rcases hp with rfl | ⟨⟨t, v⟩, hkv, hp⟩
      · exact ⟨k, hr, hk⟩
      have hc := hr.mem hkv
      rw [childKind_schema hk.1] at hc
      have hs := sizeOf_obj_mem hkv
      have hget : (J.obj kvs).get? t = some v := lookup_of_mem hr.2.obj_inv.1 hkv
      rcases kidOf_cases toks t v with ⟨hkw, m, rfl, e⟩ | ⟨hkw, xs, rfl, e⟩ | ⟨hkw, m, rfl, e⟩ | e <;>
        rw [e] at hp
      · -- a map of schemas: its members are schema values
        obtain ⟨kv', hkv', hp⟩ := List.mem_flatMap.1 hp
        rw [childKind_map hkw] at hc
        exact ih kv'.2 (Nat.lt_trans (sizeOf_obj_mem hkv') hs) _ _ (hc.mem hkv') (.of_ne rfl nofun) p hp
      · -- an array of schemas: its elements are schema values
        obtain ⟨xn, hxn, hp⟩ := List.mem_flatMap.1 hp
        have hgetx := List.mem_zipIdx_iff_getElem?.1 hxn
        rw [childKind_arr hkw hget] at hc
        exact ih xn.1 (Nat.lt_trans (sizeOf_arr_mem (List.mem_of_getElem? hgetx)) hs) _ _
          (hc.step (step_of_getElem? hgetx)) (.of_ne rfl nofun) p hp
      · -- `childKind_one`: a schema kind, `notPtr` only under `not`
        exact ih _ hs _ _ hc (childKind_one hkw hget) p hp
      · cases hp
    | _ => simp [schemasAt] at hp

theorem kres_pathItem {d : J} (hd : NodupKeys d) {kv : String × J} (hkv : kv ∈ Doc.pathItems d) :
    KRes d ["paths", kv.1] kv.2 .pathItem :=
  (KRes.root hd).getObj (List.mem_filter.1 hkv).1 fun m => by
    simp [childKind_swagger, childKind_paths, (List.mem_filter.1 hkv).2]

theorem kres_op {d : J} (hd : NodupKeys d) {o : String × String × Pos} (ho : o ∈ operations d) :
    KRes d o.2.2.1 o.2.2.2 .operation := by
  obtain ⟨kv, hkv, ho⟩ := List.mem_flatMap.1 ho
  obtain ⟨m, hm, ho⟩ := List.mem_filterMap.1 ho
  obtain ⟨op, hget, rfl⟩ := Option.map_eq_some_iff.1 ho
  have := (kres_pathItem hd hkv).get? hget
  rwa [show childKind .pathItem kv.2 m = .operation by simp [childKind_pathItem, Doc.isMethodKey, hm]] at this

theorem kres_param {d : J} (hd : NodupKeys d) {q : Pos} (hq : q ∈ listedParams d ++ sharedParams d) :
    KRes d q.1 q.2 .param := by
  have hof : ∀ {holder : Pos} {k}, KRes d holder.1 holder.2 k → (∀ j, childKind k j "parameters" = .paramArr) →
      q ∈ paramsOf holder → KRes d q.1 q.2 .param := by
    intro holder k h hk hq
    obtain ⟨ip, hip, rfl⟩ := List.mem_map.1 hq
    exact h.getArr hip fun xs t => by rw [hk]; rfl
  rcases List.mem_append.1 hq with hq | hq
  · rcases List.mem_append.1 hq with hq | hq
    · obtain ⟨kv, hkv, hq⟩ := List.mem_flatMap.1 hq
      have hm : Doc.isMethodKey "parameters" = false := by decide
      exact hof (holder := (_, _)) (kres_pathItem hd hkv) (fun j => by simp [childKind_pathItem, hm]) hq
    · obtain ⟨o, ho, hq⟩ := List.mem_flatMap.1 hq
      exact hof (kres_op hd ho) (fun j => by simp [childKind_operation]) hq
  · obtain ⟨kv, hkv, rfl⟩ := List.mem_map.1 hq
    exact (KRes.root hd).getObj hkv fun m => by simp [childKind_swagger]; rfl

theorem kres_response {d : J} (hd : NodupKeys d) {q : Pos} (hq : q ∈ opResponses d ++ sharedResponses d) :
    KRes d q.1 q.2 .response := by
  rcases List.mem_append.1 hq with hq | hq
  · obtain ⟨o, ho, hq⟩ := List.mem_flatMap.1 hq
    obtain ⟨kv, hkv, rfl⟩ := List.mem_map.1 hq
    have hm := List.mem_filter.1 hkv
    have hrk : kv.1 = "default" ∨ Doc.isCodeKey kv.1 = true := by simpa [isResponseKey] using hm.2
    exact (kres_op hd ho).getObj hm.1 fun m => by simp [childKind_operation, childKind_responses, hrk]
  · obtain ⟨kv, hkv, rfl⟩ := List.mem_map.1 hq
    exact (KRes.root hd).getObj hkv fun m => by simp [childKind_swagger]; rfl

theorem kres_schemaOf {d : J} {q : Pos} {k : Kind} (h : KRes d q.1 q.2 k)
    (hk : ∀ j, childKind k j "schema" = .schemaPtr) :
    ∀ p ∈ Spec.Index.schemaOf q, ∃ k', KRes d p.1 p.2 k' ∧ SK p.1 k' := by
  intro p hp
  unfold Spec.Index.schemaOf at hp
  split at hp
  · rename_i s hs
    have h' := h.get? hs
    rw [hk] at h'
    exact kres_schemasAt d s _ _ h' (.of_ne rfl nofun) p hp
  · cases hp

theorem kres_allSchemas {d : J} (hd : NodupKeys d) : ∀ p ∈ allSchemas d, ∃ k, KRes d p.1 p.2 k ∧ SK p.1 k := by
  intro p hp
  unfold allSchemas at hp
  rcases List.mem_append.1 hp with hp | hp
  · rcases List.mem_append.1 hp with hp | hp
    · obtain ⟨q, hq, hp⟩ := List.mem_flatMap.1 hp
      exact kres_schemaOf (kres_param hd (List.mem_filter.1 hq).1) (fun j => by simp [childKind_param]) p hp
    · obtain ⟨q, hq, hp⟩ := List.mem_flatMap.1 hp
      exact kres_schemaOf (kres_response hd hq) (fun j => by simp [childKind_response]) p hp
  · obtain ⟨kv, hkv, hp⟩ := List.mem_flatMap.1 hp
    have h : KRes d ["definitions", kv.1] kv.2 .schemaVal :=
      (KRes.root hd).getObj hkv fun m => by simp [childKind_swagger]; rfl
    exact kres_schemasAt d kv.2 _ _ h (.of_ne rfl nofun) p hp

end ReplaceKeys

namespace PointerProof
open Spec.Index

section
variable (P : J → Prop)
  (hobj : ∀ kvs, P (.obj kvs) → (kvs.map (·.1)).Nodup ∧ ∀ kv ∈ kvs, P kv.2)
  (harr : ∀ xs, P (.arr xs) → ∀ x ∈ xs, P x)

include hobj harr in
/-- `kres_allSchemas` with the kind forgotten.  No more general than the statement for `NodupKeys`: such a predicate
    implies it (`C12.NodupKeys.of_inv`). -/
theorem resolves {d : J} (hd : P d) :
    ∀ p ∈ allSchemas d, Spec.Pointer.parse (ptr p.1) = p.1 ∧ Spec.Pointer.get d p.1 = some p.2 := by
  intro p hp
  obtain ⟨k, h, _⟩ := ReplaceKeys.kres_allSchemas (C12.NodupKeys.of_inv P hobj harr d hd) p hp
  exact ⟨Str.parse_ptr p.1, ReplaceKeys.get_of_walk h.1⟩

end

end PointerProof
