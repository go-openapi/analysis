import Verif.Model.Flatten
import Verif.Proofs.Outcome

/-!
  C09 on the phase model: no Go panic is reachable in the modelled pipeline of Flatten.  `Outcome` has a constructor
  `.panic` for the run-time panics of the Go code; no function the pipeline reaches constructs it and every index
  expression is the total `l[i]?`, so each `np_` lemma confirms its absence along the call graph of one function.
  What this says about the Go code rests on the model being faithful there (the `phases` stream).
-/

namespace Proofs.NoPanic
open Flatten

def NP {α : Type} (x : Outcome α) : Prop := x.isPanic = false

theorem NP.ok {α : Type} (a : α) : NP (Outcome.ok a) := rfl
theorem NP.pure {α : Type} (a : α) : NP (pure a : Outcome α) := rfl
theorem NP.err {α : Type} (e : String) : NP (Outcome.err e : Outcome α) := rfl
theorem NP.oof {α : Type} : NP (Outcome.outOfFuel : Outcome α) := rfl

theorem NP.ne_panic {α : Type} {x : Outcome α} (h : NP x) (w : String) : x ≠ .panic w := by
  rintro rfl; cases h

theorem NP.bind {α β : Type} {x : Outcome α} {f : α → Outcome β} (hx : NP x) (hf : ∀ a, NP (f a)) :
    NP (x >>= f) := by
  cases x with
  | ok a => exact hf a
  | err e => rfl
  | panic w => cases hx
  | outOfFuel => rfl

/-- `Classify.classify` is written with `Outcome.bind`, not with `do` -/
theorem NP.bind' {α β : Type} {x : Outcome α} {f : α → Outcome β} (hx : NP x) (hf : ∀ a, NP (f a)) :
    NP (x.bind f) := NP.bind hx hf

theorem NP.ite {α : Type} {c : Prop} [Decidable c] {a b : Outcome α} (ha : NP a) (hb : NP b) :
    NP (if c then a else b) := by
  split <;> assumption

theorem NP.foldlM {σ α : Type} {f : σ → α → Outcome σ} (hf : ∀ s a, NP (f s a)) :
    ∀ (l : List α) (s : σ), NP (l.foldlM f s)
  | [], _ => rfl
  | a :: l, s => NP.bind (hf s a) (fun s' => NP.foldlM hf l s')

theorem NP.mapM {α β : Type} {f : α → Outcome β} (hf : ∀ a, NP (f a)) : ∀ (l : List α), NP (l.mapM f)
  | [] => rfl
  | a :: l => by
    rw [List.mapM_cons]
    exact NP.bind (hf a) (fun b => NP.bind (NP.mapM hf l) (fun bs => rfl))

/-- `np_by [h₁, …]` proves `NP e` along the structure of `e`; the `hᵢ` are the lemmas about the functions `e` calls.
    Nearly all of the cost is in the alternatives that fail before one applies (a failed `refine` on a large goal is
    the dearest, a failed `apply` of a lemma about another function the cheapest): hence no built-in lemma about a
    model function, and the order.  `split` comes last so that it only takes apart a `match` at the head of the
    outcome: put earlier it would also split the closed conditions inside the continuations, once per branch above. -/
macro "np_by " "[" hs:term,* "]" : tactic => `(tactic| repeat' first
  | with_reducible first
    | refine NP.bind ?_ fun _ => ?_
    $[| apply $hs]*
    | exact NP.pure _ | exact NP.ok _ | exact NP.err _
    | refine NP.foldlM (fun _ _ => ?_) _ _
    | refine NP.ite ?_ ?_
    | refine NP.bind' ?_ fun _ => ?_
  | intro _
  | extract_lets
  | split)

theorem np_need {α : Type} (fn arg : String) : NP (need fn arg : Outcome α) := rfl

theorem np_ask (fn : String) (f : String → Option String) (arg : String) : NP (ask fn f arg) := by
  unfold ask; split
  · rfl
  · exact np_need _ _

theorem np_updateRef (d : J) (key ref : String) : NP (Replace.updateRef d key ref) := by
  unfold Replace.updateRef; np_by []

theorem np_rewriteSchemaToRef (d : J) (key ref : String) : NP (Replace.rewriteSchemaToRef d key ref) := by
  unfold Replace.rewriteSchemaToRef; np_by []

theorem np_updateRefWithSchema (d : J) (key : String) (sch : J) : NP (Replace.updateRefWithSchema d key sch) := by
  unfold Replace.updateRefWithSchema; np_by []

theorem np_updateRefInSchema (sch : J) (key ref : String) : NP (updateRefInSchema sch key ref) := by
  unfold updateRefInSchema; np_by []

theorem np_classify (fc : Facts) (x : Classify.Ext) (root : J) :
    ∀ (fuel : Nat) (visited : List String) (s : J), NP (Classify.classify fc x root fuel visited s)
  | 0, _, _ => rfl
  | fuel + 1, visited, s => by
    have ih := np_classify fc x root fuel
    unfold Classify.classify
    np_by [ih]

theorem np_deepestRefLoop (x : Ext) (d : J) :
    ∀ (fuel : Nat) (visited : List String) (cur : String), NP (deepestRefLoop x d fuel visited cur)
  | 0, _, _ => rfl
  | fuel + 1, visited, cur => by
    have ih := np_deepestRefLoop x d fuel
    unfold deepestRefLoop
    np_by [ih, np_need]

theorem np_deepestRef (x : Ext) (d : J) (fuel : Nat) (ref : String) : NP (deepestRef x d fuel ref) := by
  unfold deepestRef
  np_by [np_deepestRefLoop]

theorem np_uniqifyName (f : Facts) (x : Names.Ext) (defs : List String) (name : String) (fuel : Nat) :
    NP (Names.uniqifyName f x defs name fuel) := by
  unfold Names.uniqifyName; np_by [NP.oof]

theorem np_uniqify (fc : Facts) (x : Ext) (defs : List String) (name : String) : NP (uniqify fc x defs name) := by
  unfold uniqify
  np_by [np_need, np_uniqifyName]

theorem np_removeUnusedLoop (f : Facts) (x : RemoveUnused.Ext) :
    ∀ (fuel : Nat) (d : J), NP (RemoveUnused.removeUnused f x fuel d)
  | 0, _ => rfl
  | fuel + 1, d => by
    have ih := np_removeUnusedLoop f x fuel
    unfold RemoveUnused.removeUnused
    np_by [ih]

theorem np_gatherFrom (x : Ext) (ops : List (String × String × J)) : NP (gatherFrom x ops) := by
  unfold gatherFrom
  np_by [np_ask, NP.mapM]

theorem np_gatherOperations (x : Ext) (idx : List Analyzer.Ent) : NP (gatherOperations x idx) := by
  unfold gatherOperations
  exact np_gatherFrom _ _

theorem np_opRefsByRef (x : Ext) (idx : List Analyzer.Ent) : NP (opRefsByRef x idx) := by
  unfold opRefsByRef
  np_by [np_gatherOperations]

theorem np_pathItemRef (x : Ext) (s : List String) : NP (pathItemRef x s) := by
  unfold pathItemRef
  np_by [np_ask]

theorem np_pathRef (x : Ext) (s : List String) : NP (pathRef x s) := by
  unfold pathRef
  np_by [np_ask]

theorem np_responseName (x : Ext) (s : List String) : NP (responseName x s) := by
  unfold responseName
  np_by [np_ask]

theorem np_namesForParam (x : Ext) (s : List String) (ops : List (String × OpRef)) : NP (namesForParam x s ops) := by
  unfold namesForParam
  np_by [np_pathItemRef, np_pathRef]

theorem np_namesForOperation (x : Ext) (s : List String) (ops : List (String × OpRef)) :
    NP (namesForOperation x s ops) := by
  unfold namesForOperation
  np_by [np_namesForParam, np_pathItemRef, np_responseName]

theorem np_namesFromKey (x : Ext) (s : List String) (fl : Classify.Flags) (ops : List (String × OpRef)) :
    NP (namesFromKey x s fl ops) := by
  unfold namesFromKey
  np_by [np_namesForOperation]

theorem np_nameWith (fc : Facts) (x : Ext) (o : Opts) (st : St) (key : String) (schema : J) (parts : List String)
    (name : String) : NP (nameWith fc x o st key schema parts name) := by
  unfold nameWith
  np_by [np_ask, np_uniqify, np_rewriteSchemaToRef, np_deepestRef, np_updateRef]

theorem np_nameSchema (fc : Facts) (x : Ext) (o : Opts) (ops : List (String × OpRef)) (st : St) (key : String)
    (schema : J) (fl : Classify.Flags) : NP (nameSchema fc x o ops st key schema fl) := by
  unfold nameSchema
  np_by [np_namesFromKey, np_nameWith]

theorem np_nameInlinedSchemas (fc : Facts) (x : Ext) (o : Opts) (s : St) : NP (nameInlinedSchemas fc x o s) := by
  unfold nameInlinedSchemas
  np_by [np_opRefsByRef, np_classify, np_nameSchema]

theorem np_normalizeRef (fc : Facts) (x : Ext) (o : Opts) (s : St) : NP (normalizeRef fc x o s) := by
  unfold normalizeRef
  np_by [np_ask, np_updateRef]

theorem np_removeUnused (fc : Facts) (x : Ext) (s : St) : NP (Flatten.removeUnused fc x s) := by
  unfold Flatten.removeUnused
  np_by [np_removeUnusedLoop]

theorem np_flattenAnonPointer (fc : Facts) (x : Ext) (o : Opts) (ops : List (String × OpRef)) (st : St)
    (plans : List (String × PtrPlan)) (key : String) (v : PtrPlan) :
    NP (flattenAnonPointer fc x o ops st plans key v) := by
  unfold flattenAnonPointer
  np_by [np_classify, np_deepestRef, np_nameSchema, np_updateRefWithSchema]

theorem np_namePointersPass (fc : Facts) (x : Ext) (o : Opts) (s : St) : NP (namePointersPass fc x o s) := by
  unfold namePointersPass
  np_by [np_need, np_deepestRef, np_opRefsByRef, np_updateRef, np_flattenAnonPointer]

theorem np_namePointersLoop (fc : Facts) (x : Ext) (o : Opts) : ∀ (fuel : Nat) (s : St), NP (namePointersLoop fc x o fuel s)
  | 0, _ => rfl
  | fuel + 1, s => by
    have ih := np_namePointersLoop fc x o fuel
    unfold namePointersLoop
    np_by [ih, np_namePointersPass]

theorem np_namePointers (fc : Facts) (x : Ext) (o : Opts) (s : St) : NP (namePointers fc x o s) :=
  np_namePointersLoop fc x o _ s

/-- the first parent is `pr[i]?.getD ""` with `i` from `findIdx?`: no partial index expression -/
theorem np_stripOAIGenForRef (fc : Facts) (x : Ext) (st : St) (k : String) (r : NewRef) :
    NP (stripOAIGenForRef fc x st k r) := by
  unfold stripOAIGenForRef
  np_by [np_updateRefWithSchema, np_ask, np_updateRef, np_classify]

theorem np_stripInOrder (fc : Facts) (x : Ext) (s1 : St) (order : List String) : NP (stripInOrder fc x s1 order) := by
  unfold stripInOrder
  np_by [np_stripOAIGenForRef]

theorem np_stripOAIGen (fc : Facts) (x : Ext) (s : St) : NP (stripOAIGen fc x s) := by
  unfold stripOAIGen
  exact np_stripInOrder _ _ _ _

theorem np_normPath (o : Opts) (ref : String) : NP (normPath o ref) := by
  unfold normPath; np_by []

theorem np_rebaseRef (baseRef ref : String) : NP (rebaseRef baseRef ref) := by
  unfold rebaseRef; np_by []

theorem np_rawNameFromRef (ref : String) : NP (rawNameFromRef ref) := by
  unfold rawNameFromRef; np_by []

theorem np_reverseIndex (o : Opts) (schemas : List (String × String)) : NP (reverseIndex o schemas) := by
  unfold reverseIndex
  np_by [np_normPath]

theorem np_importNewRef (fc : Facts) (x : Ext) (o : Opts) (st : St) (refStr : String) (entry : RevIdx) :
    NP (importNewRef fc x o st refStr entry) := by
  unfold importNewRef
  np_by [np_need, np_rebaseRef, np_ask, np_updateRefInSchema, np_rawNameFromRef, np_uniqify, np_updateRef]

theorem np_maintainNewRefs (x : Ext) (st : St) : NP (maintainNewRefs x st) := by
  unfold maintainNewRefs
  np_by [np_need, np_ask]

theorem np_importExternalReferences (fc : Facts) (x : Ext) (o : Opts) (s : St) :
    NP (importExternalReferences fc x o s) := by
  unfold importExternalReferences
  np_by [np_reverseIndex, np_ask, np_updateRef, np_importNewRef, np_maintainNewRefs]

theorem np_importReferences (fc : Facts) (x : Ext) (o : Opts) : ∀ (fuel : Nat) (s : St), NP (importReferences fc x o fuel s)
  | 0, _ => rfl
  | fuel + 1, s => by
    have ih := np_importReferences fc x o fuel
    unfold importReferences
    np_by [ih, np_importExternalReferences]

theorem np_importReferencesLocal (fc : Facts) (s : St) : NP (importReferencesLocal fc s) := by
  unfold importReferencesLocal; np_by []

theorem np_stripLoop (fc : Facts) (x : Ext) (o : Opts) : ∀ (fuel : Nat) (s : St) (again : Bool), NP (stripLoop fc x o fuel s again)
  | 0, _, _ => rfl
  | fuel + 1, s, again => by
    have ih := np_stripLoop fc x o fuel
    unfold stripLoop
    np_by [ih, np_nameInlinedSchemas, np_namePointers, np_stripOAIGen]

theorem np_stripPointersAndOAIGen (fc : Facts) (x : Ext) (o : Opts) (fuel : Nat) (s : St) :
    NP (stripPointersAndOAIGen fc x o fuel s) := by
  unfold stripPointersAndOAIGen
  np_by [np_namePointers, np_stripOAIGen, np_stripLoop]

theorem np_flatten (fc : Facts) (x : Ext) (o : Opts) (fuel : Nat) (s : St) : NP (flatten fc x o fuel s) := by
  unfold flatten
  np_by [np_normalizeRef, np_importReferences, np_nameInlinedSchemas, np_stripPointersAndOAIGen, np_removeUnused]

theorem np_flattenLocal (fc : Facts) (x : Ext) (o : Opts) (fuel : Nat) (s : St) : NP (flattenLocal fc x o fuel s) := by
  unfold flattenLocal
  np_by [np_normalizeRef, np_importReferencesLocal, np_nameInlinedSchemas, np_stripPointersAndOAIGen, np_removeUnused]

end Proofs.NoPanic
