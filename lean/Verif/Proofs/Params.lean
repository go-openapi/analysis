import Verif.Model.Params
import Verif.Spec.Ops
import Verif.Proofs.JsonLemmas

/-!
  Helper lemmas for C15 (effective parameters of an operation).  The theorems about the loop
  `paramsAsMap` go by its own induction principle (`fun_induction`): seven cases, in the order of the
  definition — no parameter left; already panicked; inline parameter; `$ref` resolved; `$ref` not
  resolved with a nil callback; with a callback answering "continue"; with a callback answering "stop".
-/

namespace Proofs.Params
open J _root_.Params

/-- what a parameter stands for: itself, or the parameter its `$ref` designates -/
def resolved (x : Ext) (d : J) (p : J) : Option J :=
  if Doc.refStr p = "" then some p else (resolveParam x d (Doc.refStr p)).toOption

theorem ne_error_of_ok {r : Except RefErr J} {e : RefErr} (h : ∃ t, r = .ok t) : r ≠ .error e := by
  obtain ⟨t, rfl⟩ := h
  nofun

/-- storing `q` and letting the later `qs` override it is letting `q :: qs` override the map as it was -/
theorem override_step (x : Ext) (k : String) (q : J) (qs : List J) (res : List (String × J)) :
    (match (qs.filter fun p => mapKey x p = k).getLast? with
     | some p => some p
     | none => lookup k (setKv (mapKey x q) q res)) =
    (match ((q :: qs).filter fun p => mapKey x p = k).getLast? with
     | some p => some p
     | none => lookup k res) := by
  by_cases hk : mapKey x q = k
  · rw [List.filter_cons_of_pos (by simpa using hk), List.getLast?_cons, ← hk, lookup_setKv_self]
    cases (qs.filter fun p => mapKey x p = mapKey x q).getLast? <;> rfl
  · rw [List.filter_cons_of_neg (by simpa using hk), lookup_setKv_ne _ _ _ _ (Ne.symm hk)]

theorem params_override (x : Ext) (d : J) (cb : Bool) (ps : List J) (acc : Acc)
    (hr : ∀ p ∈ ps, Doc.refStr p ≠ "" → ∃ t, resolveParam x d (Doc.refStr p) = .ok t)
    (hp : acc.panicked = false) (k : String) :
    (paramsAsMap x d cb ps acc).panicked = false ∧ (paramsAsMap x d cb ps acc).calls = acc.calls ∧
    lookup k (paramsAsMap x d cb ps acc).res =
      (match ((ps.filterMap (resolved x d)).filter fun p => mapKey x p = k).getLast? with
       | some p => some p
       | none => lookup k acc.res) := by
  fun_induction paramsAsMap x d cb ps acc
  case case1 => exact ⟨hp, rfl, rfl⟩
  case case2 h => rw [hp] at h; cases h
  case case3 h0 ih =>
    obtain ⟨h1, h2, h3⟩ := ih (fun q hq => hr q (List.mem_cons_of_mem _ hq)) hp
    refine ⟨h1, h2, h3.trans ?_⟩
    rw [List.filterMap_cons, show resolved x d _ = some _ from if_pos h0]
    exact override_step x k _ _ _
  case case4 h0 t ht ih =>
    obtain ⟨h1, h2, h3⟩ := ih (fun q hq => hr q (List.mem_cons_of_mem _ hq)) hp
    refine ⟨h1, h2, h3.trans ?_⟩
    rw [List.filterMap_cons, show resolved x d _ = some t by rw [resolved, if_neg h0, ht]; rfl]
    exact override_step x k _ _ _
  -- the three cases of an unresolved reference contradict `hr`
  all_goals exact absurd ‹resolveParam x d _ = .error _› (ne_error_of_ok (hr _ List.mem_cons_self ‹_›))

theorem no_placeholder (x : Ext) (d : J) (cb : Bool) (ps : List J) (acc : Acc)
    (hacc : ∀ kv ∈ acc.res, Doc.refStr kv.2 = "")
    (hshared : ∀ r t, resolveParam x d r = .ok t → Doc.refStr t = "") :
    ∀ kv ∈ (paramsAsMap x d cb ps acc).res, Doc.refStr kv.2 = "" := by
  have set (acc : Acc) (q : J) (hq : Doc.refStr q = "") (hacc : ∀ kv ∈ acc.res, Doc.refStr kv.2 = "") :
      ∀ kv ∈ setKv (mapKey x q) q acc.res, Doc.refStr kv.2 = "" := fun kv hkv =>
    (mem_setKv hkv).elim (fun e => e ▸ hq) (hacc kv)
  fun_induction paramsAsMap x d cb ps acc
  case case3 h0 ih => exact ih (set _ _ h0 hacc)
  case case4 t ht ih => exact ih (set _ t (hshared _ t ht) hacc)
  case case6 ih => exact ih hacc
  -- in the other four cases the loop stops with the result map it had
  all_goals exact hacc

theorem plain_panics_iff_bad_ref (x : Ext) (d : J) (ps : List J) (acc : Acc) (hp : acc.panicked = false) :
    (paramsAsMap x d false ps acc).panicked = true ↔
      ∃ p ∈ ps, Doc.refStr p ≠ "" ∧ ∀ t, resolveParam x d (Doc.refStr p) ≠ .ok t := by
  fun_induction paramsAsMap x d false ps acc
  case case1 => simp [hp]
  case case2 h => rw [hp] at h; cases h
  case case3 h0 ih => simp [ih hp, h0]
  case case4 t ht ih => simp [ih hp, ht]
  case case5 h0 e he _ => simp [h0, he]
  -- cases 6 and 7 have a callback
  case case6 h _ _ _ _ => cases h rfl
  case case7 h _ _ _ => cases h rfl

theorem safe_reports_exactly_bad_refs (x : Ext) (d : J) (ps : List J) (acc : Acc)
    (hp : acc.panicked = false) (hs : acc.script = []) :
    (paramsAsMap x d true ps acc).calls = acc.calls ++
      ps.filterMap fun p =>
        if Doc.refStr p = "" then none
        else match resolveParam x d (Doc.refStr p) with
          | .ok _ => none
          | .error e => some (Doc.refStr p, e) := by
  fun_induction paramsAsMap x d true ps acc
  case case1 => simp
  case case2 h => rw [hp] at h; cases h
  case case3 h0 ih => simpa [h0] using ih hp hs
  case case4 h0 t ht ih => simpa [h0, ht] using ih hp hs
  case case5 h => cases h
  case case6 h0 e he _ _ _ _ ih =>
    rw [ih hp (congrArg List.tail hs), List.filterMap_cons, if_neg h0, he, List.append_assoc]
    rfl
  -- with an empty script the callback answers "continue": the "stop" case does not occur
  case case7 h => simp +zetaDelta [hs] at h

theorem safe_not_panicked (x : Ext) (d : J) (ps : List J) (acc : Acc) (hp : acc.panicked = false) :
    (paramsAsMap x d true ps acc).panicked = false := by
  fun_induction paramsAsMap x d true ps acc
  case case2 h => rw [hp] at h; cases h
  case case5 h => cases h
  case case3 ih | case4 ih | case6 ih => exact ih hp
  all_goals exact hp

theorem mem_allOps {d : J} {kv : String × J} {m : String} {op : J}
    (hkv : kv ∈ Doc.pathItems d) (hm : m ∈ Doc.methods) (hg : kv.2.get? m = some op) :
    (Str.toUpperAscii m, kv.1, op) ∈ Spec.Ops.allOps d := by
  simp only [Spec.Ops.allOps, List.mem_flatMap, List.mem_filterMap, Option.map_eq_some_iff]
  exact ⟨kv, hkv, m, hm, op, hg, rfl⟩

theorem findByID_unknown (f : Facts) (hm : f.paramsForMethods.Perm Doc.methods) (d : J) (id : String)
    (h : ((Spec.Ops.allOps d).filter fun o => Spec.Ops.idOf o = id) = []) :
    findByID f d id = none := by
  unfold findByID
  rw [List.findSome?_eq_none_iff]
  intro kv hkv
  rw [Option.map_eq_none_iff, List.findSome?_eq_none_iff]
  intro m hmm
  cases hg : kv.2.get? m with
  | none => rfl
  | some op =>
    simp only
    split
    · rename_i hid
      exact absurd (decide_eq_true hid) (List.filter_eq_nil_iff.1 h _ (mem_allOps hkv (hm.mem_iff.mp hmm) hg))
    · rfl

end Proofs.Params
