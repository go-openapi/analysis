import Verif.Model.Flatten
import Verif.Proofs.SetAt
import Verif.Proofs.Retarget

/-!
  `Spec.Pointer.get` against the writes of the rewrites: `Replace.setAt` (put a node at a token path) and
  `Flatten.save` (add a definition).  The main fact is `get_setAt_off`: a write is invisible, as far as `$ref` strings
  and shapes go, to every canonically spelled pointer (`CanonTok`, in `Proofs/SetAt.lean`) that does not lead to or
  below the written position.  At the end, in the namespace `Proofs.RetargetModel`: the bundles whose root document is
  the one being rewritten (`bundleWith`).
-/

namespace Proofs.MoveBase
open J Replace Proofs.SetAt Proofs.Retarget

theorem get_of_setAt (d : J) (toks : List String) (v d' : J) (h : setAt d toks v = some d') :
    ∃ old, Spec.Pointer.get d toks = some old := SetAt.get_of_setAt h

theorem get_setAt_ancestor {d d' v : J} {p s : List String} (h : setAt d (p ++ s) v = some d') :
    ∃ j j', Spec.Pointer.get d p = some j ∧ Spec.Pointer.get d' p = some j' ∧ setAt j s v = some j' := by
  induction p generalizing d d' with
  | nil => exact ⟨d, d', rfl, rfl, h⟩
  | cons t ts ih =>
    obtain ⟨c, c', hs, hc, rfl⟩ := setAt_cons_iff.1 h
    simpa only [Spec.Pointer.get, hs, step_setChild_self hs, Option.bind_some] using ih hc

theorem shapeEq_setChild {d c : J} {t : String} (hs : Spec.Pointer.step d t = some c) (c' : J) :
    ShapeEq d (setChild d t c') := by
  rcases step_cases hs with ⟨kvs, rfl, hl⟩ | ⟨xs, i, rfl, hn, _⟩
  · simp only [ShapeEq, setChild, Bisim.visible_keys, map_setKv_of_lookup (·.1) t c' _ _ hl rfl]
  · simp [ShapeEq, setChild_arr xs hn]

theorem refStr_setChild {t : String} {c c' d : J} (hs : Spec.Pointer.step d t = some c)
    (hc : ∀ s, c ≠ .str s) (hc' : ∀ s, c' ≠ .str s) : Doc.refStr (setChild d t c') = Doc.refStr d := by
  rcases step_cases hs with ⟨kvs, rfl, hl⟩ | ⟨xs, i, rfl, hn, _⟩
  · by_cases ht : t = "$ref"
    · subst ht
      exact (getStr_of_not_str (j := .obj _) (lookup_setKv_self _ c' kvs) hc').trans
        (getStr_of_not_str (j := .obj kvs) hl hc).symm
    · simp only [setChild, Doc.refStr, getStr, get?, lookup_setKv_ne _ _ _ _ (Ne.symm ht)]
  · rw [setChild_arr xs hn]; rfl

-- `old`, `v` not strings: a string at the member `$ref` is the `refStr` of the node above it (`refStr_setChild`); any
-- other write leaves `refStr`s and shapes off the path alone
theorem get_setAt_off {v old : J} (hso : ∀ s, old ≠ .str s) (hsv : ∀ s, v ≠ .str s) :
    ∀ {toks : List String} {d d' : J}, setAt d toks v = some d' → Spec.Pointer.get d toks = some old →
    (∀ t ∈ toks, CanonTok t) → ∀ p, (∀ t ∈ p, CanonTok t) → ¬ toks <+: p →
    NodeSim (Spec.Pointer.get d p) (Spec.Pointer.get d' p) := by
  intro toks
  induction toks with
  | nil => intro d d' _ _ _ p _ hnb; exact absurd List.nil_prefix hnb
  | cons t ts ih =>
    intro d d' h hold hct p hcp hnb
    obtain ⟨c, c', hs, hc, rfl⟩ := setAt_cons_iff.1 h
    simp only [Spec.Pointer.get, hs, Option.bind_some] at hold
    cases p with
    | nil =>
      refine Or.inr ⟨d, _, rfl, rfl, ?_, shapeEq_setChild hs c'⟩
      cases ts with
      | nil =>
        cases hc
        cases hold
        exact refStr_setChild hs hso hsv
      | cons t2 ts2 =>
        obtain ⟨c2, c2', hs2, _, rfl⟩ := setAt_cons_iff.1 hc
        exact refStr_setChild hs (not_str_of_step hs2 c2').1 (not_str_of_step hs2 c2').2
    | cons a p' =>
      by_cases hat : a = t
      · subst hat
        simp only [Spec.Pointer.get, hs, step_setChild_self hs, Option.bind_some]
        exact ih hc hold (fun x hx => hct x (List.mem_cons_of_mem _ hx)) p'
          (fun x hx => hcp x (List.mem_cons_of_mem _ hx)) fun hpre => hnb (List.cons_prefix_cons.2 ⟨rfl, hpre⟩)
      · simp only [Spec.Pointer.get, step_setChild_apart
          (.of_canon (hct t List.mem_cons_self) (hcp a List.mem_cons_self) (Ne.symm hat))]
        exact NodeSim.refl _

theorem get_cons_obj (kvs : List (String × J)) (k : String) (rest : List String) :
    Spec.Pointer.get (.obj kvs) (k :: rest) = (lookup k kvs).bind fun c => Spec.Pointer.get c rest := rfl

theorem get_save_other (kvs : List (String × J)) (n : String) (s' : J) (k : String) (rest : List String)
    (hk : k ≠ "definitions") :
    Spec.Pointer.get (Flatten.save (.obj kvs) n s') (k :: rest) = Spec.Pointer.get (.obj kvs) (k :: rest) :=
  get_set_ne _ _ rest hk

/-- `definitions` must be an object or absent: `save` replaces anything else by an object -/
theorem get_save_def_other (kvs : List (String × J)) (n : String) (s' : J) (m : String) (rest : List String)
    (hm : m ≠ n) (hdefs : ∀ v, lookup "definitions" kvs = some v → ∃ defs, v = .obj defs) :
    Spec.Pointer.get (Flatten.save (.obj kvs) n s') ("definitions" :: m :: rest)
      = Spec.Pointer.get (.obj kvs) ("definitions" :: m :: rest) := by
  simp only [Flatten.save, J.set, get_cons_obj, lookup_setKv_self, Option.bind_some, lookup_setKv_ne _ _ _ _ hm]
  cases hl : lookup "definitions" kvs with
  | none => simp [getObj, get?, hl]
  | some v =>
    obtain ⟨defs, rfl⟩ := hdefs v hl
    simp [getObj, get?, hl, get_cons_obj]

theorem get_save_def_self (kvs : List (String × J)) (n : String) (s' : J) (t : List String) :
    Spec.Pointer.get (Flatten.save (.obj kvs) n s') ("definitions" :: n :: t) = Spec.Pointer.get s' t := by
  simp only [Flatten.save, J.set, get_cons_obj, lookup_setKv_self, Option.bind_some]

mutual
  def keysCanon : J → Bool
    | .obj kvs => keysCanonKvs kvs
    | .arr xs => keysCanonList xs
    | _ => true
  def keysCanonKvs : List (String × J) → Bool
    | [] => true
    | (k, v) :: rest => canonTokB k && keysCanon v && keysCanonKvs rest
  def keysCanonList : List J → Bool
    | [] => true
    | v :: rest => keysCanon v && keysCanonList rest
end

theorem keysCanonKvs_iff {kvs : List (String × J)} :
    keysCanonKvs kvs = true ↔ ∀ kv ∈ kvs, CanonTok kv.1 ∧ keysCanon kv.2 = true := by
  induction kvs with
  | nil => simp [keysCanonKvs]
  | cons kv rest ih =>
    obtain ⟨k, v⟩ := kv
    simp [keysCanonKvs, CanonTok, ih, and_assoc]

theorem keysCanonList_iff {xs : List J} : keysCanonList xs = true ↔ ∀ x ∈ xs, keysCanon x = true := by
  induction xs with
  | nil => simp [keysCanonList]
  | cons x rest ih => simp [keysCanonList, ih]

theorem keysCanon_step {d c : J} {t : String} (h : keysCanon d = true) (hs : Spec.Pointer.step d t = some c) :
    keysCanon c = true := by
  cases d with
  | obj kvs => exact (keysCanonKvs_iff.1 h _ (lookup_mem hs)).2
  | arr xs =>
    obtain ⟨i, _, hi⟩ := Option.bind_eq_some_iff.1 hs
    exact keysCanonList_iff.1 h c (List.mem_of_getElem? hi)
  | _ => cases hs

theorem keysCanon_get {d j : J} {p : List String} (h : keysCanon d = true) (hg : Spec.Pointer.get d p = some j) :
    keysCanon j = true := by
  induction p generalizing d with
  | nil => cases hg; exact h
  | cons t ts ih =>
    obtain ⟨c, hs, hc⟩ := Option.bind_eq_some_iff.1 hg
    exact ih (keysCanon_step h hs) hc

theorem toString_ne_marker (i : Nat) : toString i ≠ Spec.Meaning.marker := by
  intro e
  have h := PointerProof.natOfDigits_toString i
  rw [e, show Spec.Pointer.natOfDigits Spec.Meaning.marker.toList = none by decide] at h
  cases h

theorem kids_canon {d : J} (h : keysCanon d = true) {p : List String} {a : J} (hg : Spec.Pointer.get d p = some a) :
    Bisim.Kids (fun k => CanonTok k ∧ k ≠ Spec.Meaning.marker) a := by
  refine ⟨fun kvs e key hkey => ?_, fun _ _ i => ⟨canonTok_toString i, toString_ne_marker i⟩⟩
  subst e
  obtain ⟨hmem, hne⟩ := (Bisim.mem_visible_iff kvs key).1 hkey
  obtain ⟨kv, hkv, rfl⟩ := List.mem_map.1 hmem
  exact ⟨(keysCanonKvs_iff.1 (keysCanon_get h hg) kv hkv).1, hne⟩

theorem keysCanon_set {a v : J} {k : String} (h : keysCanon a = true) (hk : CanonTok k) (hv : keysCanon v = true) :
    keysCanon (a.set k v) = true := by
  cases a with
  | obj kvs =>
    refine keysCanonKvs_iff.2 fun kv hkv => ?_
    rcases mem_setKv hkv with rfl | hkv
    · exact ⟨hk, hv⟩
    · exact keysCanonKvs_iff.1 h kv hkv
  | _ => exact h

theorem keysCanon_setChild {t : String} {c c' d : J} (hs : Spec.Pointer.step d t = some c) (hd : keysCanon d = true)
    (hc : keysCanon c' = true) : keysCanon (setChild d t c') = true := by
  rcases step_cases hs with ⟨kvs, rfl, hl⟩ | ⟨xs, i, rfl, hn, _⟩
  · exact keysCanon_set (a := .obj kvs) hd (keysCanonKvs_iff.1 hd _ (lookup_mem hl)).1 hc
  · rw [setChild_arr xs hn]
    refine keysCanonList_iff.2 fun x hx => ?_
    rcases List.mem_or_eq_of_mem_set hx with hx | rfl
    · exact keysCanonList_iff.1 hd x hx
    · exact hc

theorem keysCanon_setAt {d v d' : J} {toks : List String} (h : keysCanon d = true) (hv : keysCanon v = true)
    (hs : setAt d toks v = some d') : keysCanon d' = true := by
  induction toks generalizing d d' with
  | nil => cases hs; exact hv
  | cons t ts ih =>
    obtain ⟨c, c', hst, hc, rfl⟩ := setAt_cons_iff.1 hs
    exact keysCanon_setChild hst h (ih (keysCanon_step h hst) hc)

end Proofs.MoveBase

namespace Proofs.RetargetModel
open J Spec.Meaning Proofs.Retarget

def bundleWith (d : J) (T : List (String × Pos)) (rest : Bundle) : Bundle :=
  { docs := ("", d) :: rest.docs, refs := ("", T) :: rest.refs }

theorem node_root (d : J) (T : List (String × Pos)) (rest : Bundle) (p : List String) :
    (bundleWith d T rest).node ("", p) = Spec.Pointer.get d p := by
  simp [bundleWith, Bundle.node]

theorem node_nonroot {d d' : J} {T T' : List (String × Pos)} {rest : Bundle} {p : Pos} (h : p.1 ≠ "") :
    (bundleWith d' T' rest).node p = (bundleWith d T rest).node p := by
  have hb : (p.1 == "") = false := by simpa using h
  simp [bundleWith, Bundle.node, List.lookup, hb]

theorem target_root (d : J) (T : List (String × Pos)) (rest : Bundle) (s : String) :
    (bundleWith d T rest).target "" s = T.lookup s := by
  simp [bundleWith, Bundle.target]

theorem target_nonroot {d d' : J} {T T' : List (String × Pos)} {rest : Bundle} {doc : String} (h : doc ≠ "") (s : String) :
    (bundleWith d' T' rest).target doc s = (bundleWith d T rest).target doc s := by
  have hb : (doc == "") = false := by simpa using h
  simp [bundleWith, Bundle.target, List.lookup, hb]

theorem target_mem {d : J} {T : List (String × Pos)} {doc s : String} {q : Pos}
    (h : (bundleWith d T { docs := [], refs := [] }).target doc s = some q) : (s, q) ∈ T := by
  by_cases hd : doc = ""
  · subst hd
    rw [target_root] at h
    obtain ⟨l₁, l₂, rfl, _⟩ := List.lookup_eq_some_iff.1 h
    exact List.mem_append_right _ List.mem_cons_self
  · have hb : (doc == "") = false := by simpa using hd
    simp [bundleWith, Bundle.target, List.lookup, hb] at h

theorem nodeSim_bundle {d d' : J} (T : List (String × Pos)) (rest : Bundle) {p : Pos}
    (h : p.1 = "" → NodeSim (Spec.Pointer.get d p.2) (Spec.Pointer.get d' p.2)) :
    NodeSim ((bundleWith d T rest).node p) ((bundleWith d' T rest).node p) := by
  by_cases hp1 : p.1 = ""
  · obtain ⟨pd, pp⟩ := p
    cases hp1
    rw [node_root, node_root]
    exact h rfl
  · exact .of_eq (node_nonroot hp1)

end Proofs.RetargetModel
