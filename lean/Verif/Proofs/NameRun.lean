import Verif.Proofs.RetargetFold
import Verif.Proofs.DeepestReaches

/-!
  The dependents loop of `InlineSchemaNamer.Name` (model: the fold inside `Flatten.nameWith`) is a run of re-targetings
  (`RetargetFold.RetargetRun`): every `$ref` it rewrites leads, through `DeepestRef`, to the new definition, which is
  what the new `$ref` string designates.  And `Flatten.nameWith`, run on the schema of a move setting, returns what
  this loop makes of the document `Setting.d2` of the move (`nameWith_decompose`) — that document itself when no `$ref`
  depends on the named place (`NoDependents`).
-/

namespace Proofs.NameRun
open J Replace Flatten Spec.Meaning Proofs.Retarget Proofs.RetargetModel Proofs.RetargetFold Proofs.DeepestReaches
open Proofs.Move Proofs.MoveBase Proofs.UpdateComm

/-- the dependents loop of `Name`: the `foldlM` inside `Flatten.nameWith`, copied out -/
def depLoop (x : Ext) (key target ref : String) (fuel : Nat) (refs : List (String × String)) (d : J) : Outcome J :=
  refs.foldlM (fun d kv => do
    let r ← deepestRef x d fuel kv.2
    if r.1 ≠ key ∧ (r.1 ≠ target ∨ Str.dir kv.2 = "#/definitions") then pure d
    else Replace.updateRef d kv.1 ref) d

theorem deepestRefLoop_stops (x : Ext) (d : J) : ∀ (fuel : Nat) (visited : List String) (cur r : String) (sch : Option J),
    deepestRefLoop x d fuel visited cur = .ok (r, sch) →
    Str.dir r = "#/definitions" ∨
      ∃ toks node, x.refTokens r = some toks ∧ Spec.Pointer.get d toks = some node ∧ Doc.refStr node = "" := by
  intro fuel
  induction fuel with
  | zero => intro visited cur r sch h; simp [deepestRefLoop] at h
  | succ fuel ih =>
    intro visited cur r sch h
    obtain ⟨_, e, hcase⟩ := deepestRefLoop_ok h
    cases e
    rcases hcase with ⟨hdir, rfl, _⟩ | ⟨toks, node, _, htoks, hw, ⟨hnext, rfl, _⟩ | ⟨_, hrec⟩⟩
    · exact Or.inl hdir
    · exact Or.inr ⟨toks, node, htoks, ReplaceKeys.get_of_walk hw, hnext⟩
    · exact ih _ _ _ _ hrec

def EntryOK (d : J) (T : List (String × Pos)) (kv : String × String) : Prop :=
  ∃ a qc, Spec.Pointer.get d (keyTokens kv.1) = some a ∧ Doc.refStr a = kv.2 ∧ kv.2 ≠ "" ∧
    hasFragmentOnly kv.2 = true ∧ T.lookup kv.2 = some qc ∧ AllCanon (keyTokens kv.1)

def ApartKV (a b : String × String) : Prop := Apart ⟨keyTokens a.1, ""⟩ ⟨keyTokens b.1, ""⟩

def KeyIsRef (x : Ext) (d : J) (key : String) (ktoks : List String) : Prop :=
  x.refTokens key = some ktoks ∧ ∃ kn, Spec.Pointer.get d ktoks = some kn ∧ Doc.refStr kn ≠ ""

theorem deepestRef_ne_key {x : Ext} {d : J} {fuel : Nat} {ref key : String} {ktoks : List String} {r : String × Option J}
    (hfrag : hasFragmentOnly ref = true) (hr : deepestRef x d fuel ref = .ok r) (hkdir : Str.dir key ≠ "#/definitions")
    (hkref : KeyIsRef x d key ktoks) : r.1 ≠ key := by
  rintro rfl
  rw [deepestRef_frag hfrag] at hr
  obtain ⟨hkt, kn, hkg, hkr⟩ := hkref
  rcases deepestRefLoop_stops x d fuel [] ref r.1 r.2 hr with hd | ⟨toks, node, ht, hg, hrn⟩
  · exact hkdir hd
  · cases hkt.symm.trans ht
    cases hkg.symm.trans hg
    exact hkr hrn

theorem depLoop_run (x : Ext) (key target ref : String) (fuel : Nat) (T : List (String × Pos)) (rest : Bundle)
    (hT : TableOK x T) (q' : Pos) (hq' : T.lookup ref = some q') (hqt : T.lookup target = some q') (hrne : ref ≠ "")
    (ktoks : List String) (hkdir : Str.dir key ≠ "#/definitions") (hkcanon : AllCanon ktoks)
    (hops : Nat) (hpos : 0 < hops)
    (hTgood : ∀ d doc s q, (bundleWith d T rest).target doc s = some q → GoodAll q ∧ "$ref" ∉ q.2) :
    ∀ (refs : List (String × String)) (d dn : J),
      depLoop x key target ref fuel refs d = .ok dn →
      (∀ kv ∈ refs, EntryOK d T kv) → refs.Pairwise ApartKV →
      -- the named place is not rewritten by the loop, nor does an entry lie inside its `$ref` member or it inside theirs
      (∀ kv ∈ refs, (keyTokens kv.1 = ktoks ∧ Str.dir kv.2 = "#/definitions") ∨ Apart ⟨keyTokens kv.1, ""⟩ ⟨ktoks, ""⟩) →
      KeyIsRef x d key ktoks → keysCanon d = true →
      RSetting.AdequateOn GoodAll (bundleWith d T rest) hops →
      ∃ steps, RetargetRun T rest d steps dn ∧ ∀ s ∈ steps, ∃ kv ∈ refs, s.toks = keyTokens kv.1 := by
  intro refs
  induction refs with
  | nil =>
    intro d dn h _ _ _ _ _ _
    cases h
    exact ⟨[], .nil d, nofun⟩
  | cons kv rest' ih =>
    intro d dn h hent hpw hkk hkref hk had
    simp only [depLoop, List.foldlM_cons] at h
    obtain ⟨d1, h1, h2⟩ := OutcomeM.bind_eq_ok.1 h
    obtain ⟨r, hr, h1'⟩ := OutcomeM.bind_eq_ok.1 h1
    obtain ⟨⟨a, qc, hget, hra, hne, hfrag, hqc, hcanon⟩, hent⟩ := List.forall_mem_cons.1 hent
    obtain ⟨hkk0, hkk⟩ := List.forall_mem_cons.1 hkk
    obtain ⟨hap, hpw⟩ := List.pairwise_cons.1 hpw
    have hsub : ∀ {steps : List Step}, (∀ s ∈ steps, ∃ kv' ∈ rest', s.toks = keyTokens kv'.1) →
        ∀ s ∈ steps, ∃ kv' ∈ kv :: rest', s.toks = keyTokens kv'.1 :=
      fun hs s hs' => (hs s hs').imp fun _ h => ⟨List.mem_cons_of_mem _ h.1, h.2⟩
    by_cases hcond : r.1 ≠ key ∧ (r.1 ≠ target ∨ Str.dir kv.2 = "#/definitions")
    · rw [if_pos hcond] at h1'
      cases h1'
      obtain ⟨steps, hrun, hs⟩ := ih d dn h2 hent hpw hkk hkref hk had
      exact ⟨steps, hrun, hsub hs⟩
    · rw [if_neg hcond] at h1'
      have hnk : r.1 ≠ key := deepestRef_ne_key hfrag hr hkdir hkref
      have hr1 : r.1 = target := Decidable.byContradiction fun h' => hcond ⟨hnk, Or.inl h'⟩
      -- this entry is rewritten: a re-targeting along the chain `DeepestRef` has followed
      have hreach := (deepestRef_reaches x d T rest hT fuel kv.2 r.1 r.2 hfrag hr qc q' hqc (hr1 ▸ hqt)).1
      have hu : updR ref .swagger d (keyTokens kv.1) = some d1 := (updateRef_ok_iff d kv.1 ref d1).1 h1'
      have hv1 : Doc.refStr a ≠ "" := hra ▸ hne
      obtain ⟨_, hk1, had1, _⟩ := step_invariants T rest hops hpos d d1 ⟨keyTokens kv.1, ref⟩ hu a qc q' hget hv1 hrne
        (hra ▸ hqc) hq' hreach hcanon (hTgood d) hk had
      have hent1 : ∀ kv' ∈ rest', EntryOK d1 T kv' := by
        intro kv' hkv'
        obtain ⟨a2, q2, hget2, hra2, hne2, hfrag2, hq2, hcanon2⟩ := hent kv' hkv'
        have hap2 : ApartKV kv kv' := hap kv' hkv'
        obtain ⟨c, hc, hr⟩ := updR_keeps_ref hu hget hv1 hcanon hcanon2 hap2.2.1 (Ne.symm hap2.1) hget2
        exact ⟨c, q2, hc, hr.trans hra2, hne2, hfrag2, hq2, hcanon2⟩
      have hkref1 : KeyIsRef x d1 key ktoks := by
        obtain ⟨hkt, kn, hkg, hkr⟩ := hkref
        -- were the entry the named place itself, its `$ref` would designate a top-level definition: not rewritten
        have hapk := hkk0.resolve_left fun h' => hcond ⟨hnk, Or.inr h'.2⟩
        obtain ⟨c, hc, hr⟩ := updR_keeps_ref hu hget hv1 hcanon hkcanon hapk.2.1 (Ne.symm hapk.1) hkg
        exact ⟨hkt, c, hc, hr ▸ hkr⟩
      obtain ⟨steps, hrun, hs⟩ := ih d1 dn h2 hent1 hpw hkk hkref1 hk1 had1
      exact ⟨⟨keyTokens kv.1, ref⟩ :: steps, .cons hu ⟨a, qc, q', hget, hv1, hrne, hra ▸ hqc, hq', hreach, hcanon⟩ hrun,
        List.forall_mem_cons.2 ⟨⟨kv, List.mem_cons_self, rfl⟩, hsub hs⟩⟩

/-- no `$ref` of the document depends on the place that is being named (fuel as in `Flatten.nameWith`) -/
def _root_.Proofs.MoveModel.NoDependents (fc : Facts) (x : Ext) (key target : String) (d : J) : Prop :=
  ∀ kv ∈ allRefs (Analyzer.analyze fc d),
    ∃ r, deepestRef x d (64 + (allRefs (Analyzer.analyze fc d)).length) kv.2 = .ok r ∧
      r.1 ≠ key ∧ (r.1 ≠ target ∨ Str.dir kv.2 = "#/definitions")

theorem depLoop_idle (fc : Facts) (x : Ext) (key target ref : String) (d : J)
    (h : Proofs.MoveModel.NoDependents fc x key target d) :
    depLoop x key target ref (64 + (allRefs (Analyzer.analyze fc d)).length) (allRefs (Analyzer.analyze fc d)) d = .ok d := by
  refine OutcomeM.foldlM_idle _ d _ fun kv hkv => ?_
  obtain ⟨r, hr, hc⟩ := h kv hkv
  rw [hr, OutcomeM.ok_bind, if_pos hc]
  rfl

/-- `hname`: `S.n` is the name `uniqify` chose, read off the book-keeping entry `nameWith` writes for `key` -/
theorem nameWith_decompose (S : Move.Setting) (fc : Facts) (x : Ext) (o : Opts) (st st' : St) (key : String)
    (parts : List String) (name : String)
    (h : nameWith fc x o st key (.obj S.sch) parts name = .ok st')
    (hdoc : st.doc = .obj S.kvs) (hkey : Replace.keyTokens key = S.toks)
    (hloc : S.loc = .str (genLocation parts))
    (hname : ∀ nr, getNR key st'.ctx.newRefs = some nr → nr.newName = S.n ∧ nr.path = Str.join ["#/definitions", S.n])
    (href : x.mkRef (Str.join ["#/definitions", S.n]) = some S.r) :
    depLoop x key (Str.join ["#/definitions", S.n]) S.r (64 + (allRefs (Analyzer.analyze fc S.d2)).length)
      (allRefs (Analyzer.analyze fc S.d2)) S.d2 = .ok st'.doc := by
  unfold nameWith at h
  obtain ⟨mangled, _, h⟩ := OutcomeM.bind_eq_ok.1 h
  obtain ⟨⟨newName, isOAIGen⟩, _, h⟩ := OutcomeM.bind_eq_ok.1 h
  obtain ⟨ref, hrefq, h⟩ := OutcomeM.bind_eq_ok.1 h
  obtain ⟨d0, h1, h⟩ := OutcomeM.bind_eq_ok.1 h
  obtain ⟨d3, h2, h⟩ := OutcomeM.bind_eq_ok.1 h
  simp only [OutcomeM.pure_eq_ok] at h
  subst h
  have hnn : newName = S.n := (hname _ (Proofs.FlattenBase.getNR_setNR_self _ _ _)).1
  subst hnn
  have hr : ref = S.r := Option.some.inj ((Proofs.FlattenBase.ask_eq_ok.1 hrefq).symm.trans href)
  subst hr
  have hd0 : d0 = S.d1 := by
    obtain ⟨_, _, _, _, _, hs⟩ := Replace.rewriteSchemaToRef_ok.1 h1
    rw [hdoc, hkey, S.hset] at hs
    cases hs
    rfl
  subst hd0
  have hsaved : (J.obj S.sch).set "x-go-gen-location" (.str (genLocation parts)) = S.saved := by
    unfold Move.Setting.saved; rw [hloc]; rfl
  rw [hsaved] at h2
  exact h2

end Proofs.NameRun
