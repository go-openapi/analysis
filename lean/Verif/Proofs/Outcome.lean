import Verif.Model.Json

/-!
  The `Outcome` monad in proofs.  Namespace `Outcome` speaks of `x.bind f`, namespace `OutcomeM` of `x >>= f`, which
  unfolds to it (`bind'_eq_ok` apart); between them the `LawfulMonad` instance, through which core's `List.foldlM_cons`, `List.mapM_cons` apply.
-/

namespace Outcome

theorem bind_outOfFuel {α β} (g : α → Outcome β) : (Outcome.outOfFuel : Outcome α).bind g = .outOfFuel := rfl

theorem bind_ok {α β} (a : α) (g : α → Outcome β) : (Outcome.ok a).bind g = g a := rfl

theorem bind_assoc {α β γ} (o : Outcome α) (g : α → Outcome β) (k : β → Outcome γ) :
    (o.bind g).bind k = o.bind fun a => (g a).bind k := by
  cases o <;> rfl

/-- when `M` only computes `g b` from a value `b` that `N` computes, `N` can stand for `M` in front of a continuation -/
theorem bind_via {α β γ} {M : Outcome α} {N : Outcome β} {g : β → α} {k : α → Outcome γ} {k' : β → Outcome γ}
    (h1 : M = N.bind fun b => .ok (g b)) (h2 : ∀ b, k (g b) = k' b) : M.bind k = N.bind k' := by
  subst h1
  cases N <;> simp [bind, h2]

theorem bind_ne_outOfFuel {α β} (o : Outcome α) (g : α → Outcome β)
    (h1 : o ≠ .outOfFuel) (h2 : ∀ a, g a ≠ .outOfFuel) : o.bind g ≠ .outOfFuel := by
  cases o <;> simp_all [bind]

end Outcome

instance : LawfulMonad Outcome := LawfulMonad.mk'
  (id_map := by intro α x; cases x <;> rfl)
  (pure_bind := by intro α β a f; rfl)
  (bind_assoc := Outcome.bind_assoc)

namespace OutcomeM

theorem bind_eq_ok {α β : Type} {x : Outcome α} {f : α → Outcome β} {b : β} :
    (x >>= f) = .ok b ↔ ∃ a, x = .ok a ∧ f a = .ok b := by
  cases x <;> simp [Bind.bind, Outcome.bind]

theorem bind'_eq_ok {α β : Type} {x : Outcome α} {f : α → Outcome β} {b : β} :
    x.bind f = .ok b ↔ ∃ a, x = .ok a ∧ f a = .ok b :=
  bind_eq_ok

@[simp] theorem pure_eq_ok {α : Type} (a b : α) : (pure a : Outcome α) = .ok b ↔ a = b := by
  simp [Pure.pure]

@[simp] theorem ok_bind {α β : Type} (a : α) (f : α → Outcome β) : (Outcome.ok a >>= f) = f a := rfl

/-- rewriting with `x = .ok a` instead makes `rw` type-check a motive that contains all of the continuation -/
theorem bind_eq_of_ok {α β : Type} {x : Outcome α} {a : α} {f : α → Outcome β} {r : Outcome β}
    (hx : x = .ok a) (hf : f a = r) : (x >>= f) = r :=
  hx ▸ hf

theorem foldlM_inv_mem {σ α : Type} (P : σ → Prop) (f : σ → α → Outcome σ) (l : List α)
    (hf : ∀ s a s', a ∈ l → P s → f s a = .ok s' → P s') :
    ∀ (s s' : σ), P s → l.foldlM f s = .ok s' → P s' := by
  induction l with
  | nil => intro s s' hp h; cases h; exact hp
  | cons a l ih =>
    intro s s' hp h
    obtain ⟨s1, h1, h2⟩ := bind_eq_ok.1 h
    exact ih (fun s b s' hb => hf s b s' (List.mem_cons_of_mem _ hb)) s1 s'
      (hf s a s1 List.mem_cons_self hp h1) h2

theorem foldlM_idle {σ α : Type} (f : σ → α → Outcome σ) (s : σ) :
    ∀ (l : List α), (∀ a ∈ l, f s a = .ok s) → l.foldlM f s = .ok s
  | [], _ => rfl
  | a :: l, h => by
    rw [List.foldlM_cons, h a List.mem_cons_self]
    exact foldlM_idle f s l fun b hb => h b (List.mem_cons_of_mem _ hb)

theorem foldlM_ok {σ α : Type} (P : σ → Prop) (f : σ → α → Outcome σ) :
    ∀ (l : List α), (∀ s a, a ∈ l → P s → ∃ s', f s a = .ok s' ∧ P s') →
      ∀ s, P s → ∃ s', l.foldlM f s = .ok s' ∧ P s' := by
  intro l
  induction l with
  | nil => intro _ s hp; exact ⟨s, rfl, hp⟩
  | cons a l ih =>
    intro hf s hp
    obtain ⟨s1, h1, hp1⟩ := hf s a List.mem_cons_self hp
    obtain ⟨s2, h2, hp2⟩ := ih (fun s b hb => hf s b (List.mem_cons_of_mem _ hb)) s1 hp1
    exact ⟨s2, bind_eq_of_ok h1 h2, hp2⟩

/-- partial correctness: when `o` returns normally, what it returns satisfies `Q`.  A proof follows the `do` block of
    `o` with `Post.bind`, `Post.ite`, `Post.foldlM`, `Post.pure`. -/
def Post {α : Type} (o : Outcome α) (Q : α → Prop) : Prop := ∀ a, o = .ok a → Q a

theorem Post.pure {α : Type} {a : α} {Q : α → Prop} (h : Q a) : Post (pure a) Q :=
  fun _ e => Outcome.ok.inj e ▸ h

theorem Post.bind {α β : Type} {x : Outcome α} {f : α → Outcome β} {Q : β → Prop}
    (h : ∀ a, x = .ok a → Post (f a) Q) : Post (x >>= f) Q :=
  fun b e => let ⟨a, ha, hb⟩ := bind_eq_ok.1 e; h a ha b hb

theorem Post.ite {α : Type} {c : Prop} [Decidable c] {a b : Outcome α} {Q : α → Prop}
    (ht : c → Post a Q) (he : ¬c → Post b Q) : Post (if c then a else b) Q := by
  split
  · exact ht ‹_›
  · exact he ‹_›

theorem Post.foldlM {σ α : Type} {f : σ → α → Outcome σ} {l : List α} (P : σ → Prop) {s : σ} (hs : P s)
    (hf : ∀ s a, a ∈ l → P s → Post (f s a) P) : Post (l.foldlM f s) P :=
  fun s' e => foldlM_inv_mem P f l (fun s a s' ha hp => hf s a ha hp s') s s' hs e

/-- `o'` succeeds whenever `o` does, with a result related by `R` (not symmetric).  A proof follows the two `do` blocks
    in step: `bind` (`bind_same` when both begin with the same action), `ite`, `pure`; `refl` where they do not differ. -/
def OkRel {α : Type} (R : α → α → Prop) (o o' : Outcome α) : Prop := ∀ a, o = .ok a → ∃ a', o' = .ok a' ∧ R a a'

theorem OkRel.refl {α : Type} {R : α → α → Prop} (hR : ∀ a, R a a) (o : Outcome α) : OkRel R o o :=
  fun a h => ⟨a, h, hR a⟩

theorem OkRel.trans {α : Type} {R : α → α → Prop} (hR : ∀ {a b c}, R a b → R b c → R a c) {o o' o'' : Outcome α}
    (h : OkRel R o o') (h' : OkRel R o' o'') : OkRel R o o'' := by
  intro a ha
  obtain ⟨b, hb, hab⟩ := h a ha
  obtain ⟨c, hc, hbc⟩ := h' b hb
  exact ⟨c, hc, hR hab hbc⟩

theorem OkRel.pure {α : Type} {R : α → α → Prop} {a a' : α} (h : R a a') : OkRel R (pure a) (pure a') := by
  intro b hb
  cases hb
  exact ⟨a', rfl, h⟩

theorem OkRel.bind {α β : Type} {R : α → α → Prop} {S : β → β → Prop} {o o' : Outcome α} {f f' : α → Outcome β}
    (h : OkRel R o o') (hf : ∀ a a', R a a' → OkRel S (f a) (f' a')) : OkRel S (o >>= f) (o' >>= f') := by
  intro b hb
  obtain ⟨a, ha, hb⟩ := bind_eq_ok.1 hb
  obtain ⟨a', ha', hr⟩ := h a ha
  obtain ⟨b', hb', hs⟩ := hf a a' hr b hb
  exact ⟨b', bind_eq_ok.2 ⟨a', ha', hb'⟩, hs⟩

theorem OkRel.ite {α : Type} {R : α → α → Prop} {c : Prop} [Decidable c] {a a' b b' : Outcome α}
    (ht : OkRel R a a') (he : OkRel R b b') : OkRel R (if c then a else b) (if c then a' else b') := by
  split <;> assumption

theorem OkRel.bind_same {α β : Type} {S : β → β → Prop} {o : Outcome α} {f f' : α → Outcome β}
    (hf : ∀ a, OkRel S (f a) (f' a)) : OkRel S (o >>= f) (o >>= f') :=
  OkRel.bind (OkRel.refl (R := Eq) (fun _ => rfl) o) (fun a _ e => e ▸ hf a)

theorem mapM_perm {α β : Type} (f : α → Outcome β) {l l' : List α} (hp : l.Perm l') :
    OkRel List.Perm (l.mapM f) (l'.mapM f) := by
  induction hp with
  | nil => exact .refl .refl _
  | cons a _ ih =>
    simp only [List.mapM_cons]
    exact .bind_same fun b => .bind ih fun _ _ h => .pure (h.cons b)
  | swap a b l =>
    intro r h
    simp only [List.mapM_cons, bind_eq_ok, pure_eq_ok] at h ⊢
    obtain ⟨vb, hvb, _, ⟨va, hva, vs, hvs, rfl⟩, rfl⟩ := h
    exact ⟨_, ⟨va, hva, _, ⟨vb, hvb, vs, hvs, rfl⟩, rfl⟩, .swap va vb vs⟩
  | trans _ _ ih1 ih2 => exact ih1.trans .trans ih2

/-- the steps need only commute for entries related by `R` (pairwise in the list), and only when they succeed -/
theorem foldlM_perm_of_comm {σ α : Type} (f : σ → α → Outcome σ) (R : α → α → Prop)
    (hsymm : ∀ {a b}, R a b → R b a)
    (hcomm : ∀ (s : σ) (a b : α) (s' : σ), R a b → (f s a >>= fun s1 => f s1 b) = .ok s' →
      (f s b >>= fun s1 => f s1 a) = .ok s')
    {l l' : List α} (hp : l.Perm l') :
    ∀ (s s' : σ), l.Pairwise R → l.foldlM f s = .ok s' → l'.foldlM f s = .ok s' := by
  induction hp with
  | nil => intro s s' _ h; exact h
  | cons a _ ih =>
    intro s s' hpw h
    obtain ⟨s1, h1, h2⟩ := bind_eq_ok.1 h
    exact bind_eq_ok.2 ⟨s1, h1, ih s1 s' (List.pairwise_cons.1 hpw).2 h2⟩
  | swap a b l =>
    intro s s' hpw h
    obtain ⟨s1, h1, h2⟩ := bind_eq_ok.1 h
    obtain ⟨s2, h3, h4⟩ := bind_eq_ok.1 h2
    have hR : R b a := (List.pairwise_cons.1 hpw).1 a (by simp)
    obtain ⟨t1, h5, h6⟩ := bind_eq_ok.1 (hcomm s b a s2 hR (bind_eq_ok.2 ⟨s1, h1, h3⟩))
    exact bind_eq_ok.2 ⟨t1, h5, bind_eq_ok.2 ⟨s2, h6, h4⟩⟩
  | trans p1 _ ih1 ih2 =>
    intro s s' hpw h
    exact ih2 s s' ((p1.pairwise_iff hsymm).1 hpw) (ih1 s s' hpw h)

end OutcomeM
