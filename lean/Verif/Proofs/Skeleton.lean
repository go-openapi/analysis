import Verif.Proofs.FlattenPhases
import Verif.Proofs.StrLemmas

/-!
  C01, first clause, for the writes of the Flatten model: everything of the document that is not a schema is
  left exactly as it was; the phases write only inside schema positions and to `definitions`.

  `SkelRel k a b`: the JSON trees `a` and `b`, read as `spec` objects of kind `k` (the kinds of
  `internal/flatten/replace`), agree everywhere except inside *isOpaque* positions: same object keys in the same
  order, same array lengths, equal scalars.  `Keeps E d0 d` is that at every top-level key outside `E`.
-/

namespace Proofs.Skeleton
open J Replace Proofs.SetAt Proofs.FlattenBase Proofs.FlattenPhases

/-- positions whose content the phases may rewrite -/
def isOpaque (k : Kind) : Bool := isSchemaKind k || k == .schemaMap || k == .schemaArr

/-- `childKind` asked on a `.null` node.  At a schema kind `items`, `additionalProperties`, `additionalItems` look at
    the node and the answer here is `.other`: harmless, since `SkelRel.opq` applies there. -/
def memberKind (k : Kind) (t : String) : Kind := childKind k .null t

/-- what `childKind` answers for an index token -/
def elemKind (k : Kind) : Kind := memberKind k "0"

theorem childKind_indep (k : Kind) (hk : isOpaque k = false) (p : J) (t : String) :
    childKind k p t = memberKind k t := by
  cases k <;> first | (cases hk; done) | rfl

mutual
  inductive SkelRel : Kind → J → J → Prop
    | opq (k : Kind) (a b : J) : isOpaque k = true → SkelRel k a b
    | refl (k : Kind) (a : J) : SkelRel k a a
    | obj (k : Kind) (m m' : List (String × J)) : SkelKvs k m m' → SkelRel k (.obj m) (.obj m')
    | arr (k : Kind) (xs ys : List J) : SkelArr k xs ys → SkelRel k (.arr xs) (.arr ys)
  inductive SkelKvs : Kind → List (String × J) → List (String × J) → Prop
    | nil (k : Kind) : SkelKvs k [] []
    | cons (k : Kind) (t : String) (v v' : J) (rest rest' : List (String × J)) :
        SkelRel (memberKind k t) v v' → SkelKvs k rest rest' → SkelKvs k ((t, v) :: rest) ((t, v') :: rest')
  inductive SkelArr : Kind → List J → List J → Prop
    | nil (k : Kind) : SkelArr k [] []
    | cons (k : Kind) (x y : J) (xs ys : List J) :
        SkelRel (elemKind k) x y → SkelArr k xs ys → SkelArr k (x :: xs) (y :: ys)
end

theorem skelKvs_refl (k : Kind) : ∀ m, SkelKvs k m m
  | [] => .nil k
  | (t, v) :: rest => .cons k t v v rest rest (.refl _ v) (skelKvs_refl k rest)

theorem skelArr_refl (k : Kind) : ∀ (xs : List J), SkelArr k xs xs
  | [] => .nil k
  | x :: xs => .cons k x x xs xs (.refl _ x) (skelArr_refl k xs)

theorem skelKvs_setKv (k : Kind) (t : String) (c c' : J) (m : List (String × J)) (h : lookup t m = some c)
    (hr : SkelRel (memberKind k t) c c') : SkelKvs k m (setKv t c' m) := by
  fun_induction setKv t c' m with
  | case1 => cases h
  | case2 v rest =>
    simp only [lookup, if_true] at h
    cases h
    exact .cons k t c c' rest rest hr (skelKvs_refl k rest)
  | case3 t0 v0 rest hne ih =>
    simp only [lookup, hne, if_false] at h
    exact .cons k t0 v0 v0 rest _ (.refl _ v0) (ih h)

theorem skelArr_set (k : Kind) (c c' : J) (hr : SkelRel (elemKind k) c c') :
    ∀ (xs : List J) (i : Nat), xs[i]? = some c → SkelArr k xs (xs.set i c')
  | [], _, h => by simp at h
  | x :: xs, 0, h => by
    simp only [List.getElem?_cons_zero, Option.some.injEq] at h
    subst h
    exact .cons k x c' xs xs hr (skelArr_refl k xs)
  | x :: xs, i + 1, h => .cons k x x xs _ (.refl _ x) (skelArr_set k c c' hr xs i h)

/-- a numeral is none of the keywords `childKind` knows, no path template and no method, and it is a response code -/
theorem memberKind_numeral (k : Kind) {t : String} (hd : t.toList ≠ [] ∧ t.toList.all Doc.isDigit = true) :
    memberKind k t = match k with
      | .schemaMap | .schemaArr => .schemaVal
      | .paramArr | .paramMap => .param
      | .responses | .respMap => .response
      | _ => .other := by
  obtain ⟨hne, hd⟩ := hd
  obtain ⟨c, cs, ht⟩ := List.exists_cons_of_ne_nil hne
  have hc : Doc.isDigit c = true := by simp [ht] at hd; exact hd.1
  have ne := @Str.ne_ofList_of_digit t c cs ht hc
  have pre : ∀ {a : Char} {as : List Char}, Doc.isDigit a = false →
      Str.hasPrefix (String.ofList (a :: as)) t = false := by
    intro a as ha
    have : a ≠ c := by rintro rfl; rw [hc] at ha; cases ha
    simp [Str.hasPrefix, ht, List.isPrefixOf, this]
  have hp : Doc.isPathKey t = false := pre (a := '/') (as := []) (by decide)
  have hx : Str.hasPrefix "x-" t = false := pre (a := 'x') (as := ['-']) (by decide)
  have hdef : t ≠ "default" := ne (by decide)
  have hcode : Doc.isCodeKey t = true := by
    simp [Doc.isCodeKey, hx, hne, hd, hdef]
  -- each inequality makes the unifier take a literal apart, at a cost that grows with its length: none is stated for
  -- `additionalProperties`, `additionalItems`, `items`, whose branches of `childKind` end in `.other` on a `.null` node
  obtain ⟨⟨_, _, _, _, _, _, _, _, _, _, _⟩, _, _, _, _, _, _, _⟩ :
      (t ≠ "definitions" ∧ t ≠ "paths" ∧ t ≠ "parameters" ∧ t ≠ "responses" ∧ t ≠ "properties" ∧
        t ≠ "patternProperties" ∧ t ≠ "allOf" ∧ t ≠ "anyOf" ∧ t ≠ "oneOf" ∧ t ≠ "not" ∧ t ≠ "schema") ∧
      t ≠ "get" ∧ t ≠ "put" ∧ t ≠ "post" ∧ t ≠ "delete" ∧ t ≠ "options" ∧ t ≠ "head" ∧ t ≠ "patch" := by
    repeat' constructor
    all_goals exact ne (by decide)
  clear ne pre ht hd hne
  have hm : Doc.isMethodKey t = false := by
    simp only [Doc.isMethodKey, Doc.methods, List.contains_eq_mem, List.mem_cons, List.not_mem_nil, *, or_self,
      decide_false]
  cases k
  case schemaMap | schemaArr | paramArr | paramMap | respMap | other => rfl
  all_goals
    simp only [memberKind, childKind, *, J.get?, or_self, or_true, if_true, Bool.false_eq_true, if_false, ite_self]

theorem memberKind_index (k : Kind) {t : String} {i : Nat} (h : Spec.Pointer.natOfDigits t.toList = some i) :
    memberKind k t = elemKind k := by
  rw [elemKind, memberKind_numeral k (Str.digits_of_natOfDigits h),
    memberKind_numeral k (Str.digits_of_natOfDigits (t := "0") (i := 0) (by decide))]

theorem setAt_skelRel : ∀ (toks : List String) (k : Kind) (d : J) (n : J) (k' : Kind) (v d' : J),
    walk k d toks = some (n, k') → isOpaque k' = true → setAt d toks v = some d' → SkelRel k d d'
  | [], k, d, n, k', v, d', hw, ho, _ => by
    simp only [walk, Option.some.injEq, Prod.mk.injEq] at hw
    exact .opq k d d' (hw.2 ▸ ho)
  | t :: ts, k, d, n, k', v, d', hw, ho, hs => by
    cases hk : isOpaque k with
    | true => exact .opq k d d' hk
    | false =>
      obtain ⟨c, c', hst, hc, rfl⟩ := setAt_cons_iff.1 hs
      rw [walk, hst, childKind_indep k hk] at hw
      have hrel := setAt_skelRel ts _ c n k' v c' hw ho hc
      rcases step_cases hst with ⟨m, rfl, hl⟩ | ⟨xs, i, rfl, hn, hi⟩
      · exact .obj k _ _ (skelKvs_setKv k t c c' _ hl hrel)
      · rw [setChild_arr xs hn]
        exact .arr k xs _ (skelArr_set k c c' (memberKind_index k hn ▸ hrel) xs i hi)

mutual
  theorem SkelRel.trans : ∀ {k : Kind} {a b c : J}, SkelRel k a b → SkelRel k b c → SkelRel k a c
    | k, a, _, c, .opq _ _ _ h, _ => .opq k a c h
    | _, _, _, _, .refl _ _, h2 => h2
    | k, _, _, c, .obj _ m m' h1, h2 => by
      cases h2 with
      | opq _ _ _ h => exact .opq k _ c h
      | refl => exact .obj k m m' h1
      | obj _ _ m'' h2 => exact .obj k m m'' (SkelKvs.trans h1 h2)
    | k, _, _, c, .arr _ xs ys h1, h2 => by
      cases h2 with
      | opq _ _ _ h => exact .opq k _ c h
      | refl => exact .arr k xs ys h1
      | arr _ _ zs h2 => exact .arr k xs zs (SkelArr.trans h1 h2)
  theorem SkelKvs.trans : ∀ {k : Kind} {a b c : List (String × J)}, SkelKvs k a b → SkelKvs k b c → SkelKvs k a c
    | k, _, _, _, .nil _, h2 => by cases h2; exact .nil k
    | k, _, _, _, .cons _ t v v' rest rest' hv hr, h2 => by
      cases h2 with
      | cons _ _ _ v'' _ rest'' hv2 hr2 => exact .cons k t v v'' rest rest'' (SkelRel.trans hv hv2) (SkelKvs.trans hr hr2)
  theorem SkelArr.trans : ∀ {k : Kind} {a b c : List J}, SkelArr k a b → SkelArr k b c → SkelArr k a c
    | k, _, _, _, .nil _, h2 => by cases h2; exact .nil k
    | k, _, _, _, .cons _ x y xs ys hx hr, h2 => by
      cases h2 with
      | cons _ _ z _ zs hx2 hr2 => exact .cons k x z xs zs (SkelRel.trans hx hx2) (SkelArr.trans hr hr2)
end

theorem updateRef_setAt (d : J) (key ref : String) (d' : J) (h : updateRef d key ref = .ok d') :
    ∃ toks n k v, walk .swagger d toks = some (n, k) ∧ isSchemaKind k = true ∧ setAt d toks v = some d' :=
  (Prim.updateRef h).setAt

inductive OptRel (k : Kind) : Option J → Option J → Prop
  | none : OptRel k none none
  | some (a b : J) : SkelRel k a b → OptRel k (some a) (some b)

theorem OptRel.refl (k : Kind) : ∀ (o : Option J), OptRel k o o
  | .none => .none
  | .some a => .some a a (.refl k a)

theorem OptRel.trans {k : Kind} {a b c : Option J} (h1 : OptRel k a b) (h2 : OptRel k b c) : OptRel k a c := by
  cases h1 with
  | none => exact h2
  | some a b hab =>
    cases h2 with
    | some _ c hbc => exact .some a c (hab.trans hbc)

theorem OptRel.eq_none {k : Kind} {a b : Option J} (h : OptRel k a b) (ha : a = .none) : b = .none := by
  cases h with
  | none => rfl
  | some _ _ _ => cases ha

theorem OptRel.isSome_eq {k : Kind} {a b : Option J} (h : OptRel k a b) : b.isSome = a.isSome := by
  cases h <;> rfl

theorem OptRel.bind_congr {k : Kind} {a b : Option J} {α : Type} {f : J → Option α} (h : OptRel k a b)
    (hf : ∀ x y, SkelRel k x y → f x = f y) : a.bind f = b.bind f := by
  cases h with
  | none => rfl
  | some x y hxy => exact hf x y hxy

theorem SkelKvs.lookup {k : Kind} (t : String) : ∀ {m m' : List (String × J)}, SkelKvs k m m' →
    OptRel (memberKind k t) (lookup t m) (lookup t m')
  | _, _, .nil _ => .none
  | _, _, .cons _ t0 v v' rest rest' hv hr => by
    simp only [J.lookup]
    by_cases h : t0 = t
    · subst h; simp only [if_true]; exact .some v v' hv
    · simp only [h, if_false]; exact SkelKvs.lookup t hr

theorem SkelArr.get {k : Kind} : ∀ {xs ys : List J} (i : Nat), SkelArr k xs ys → OptRel (elemKind k) xs[i]? ys[i]?
  | _, _, _, .nil _ => by simp; exact .none
  | _, _, 0, .cons _ x y xs ys hx _ => by simp; exact .some x y hx
  | _, _, i + 1, .cons _ x y xs ys _ hr => by simp; exact SkelArr.get i hr

theorem SkelKvs.keys_eq {k : Kind} : ∀ {m m' : List (String × J)}, SkelKvs k m m' → m'.map (·.1) = m.map (·.1)
  | _, _, .nil _ => rfl
  | _, _, .cons _ t v v' rest rest' _ hr => by simp [SkelKvs.keys_eq hr]

theorem SkelRel.get? {k : Kind} (hk : isOpaque k = false) {a b : J} (h : SkelRel k a b) (key : String) :
    OptRel (memberKind k key) (a.get? key) (b.get? key) := by
  cases h with
  | opq _ _ _ ho => rw [hk] at ho; cases ho
  | refl => exact OptRel.refl _ _
  | obj _ m m' hm => exact SkelKvs.lookup key hm
  | arr _ xs ys _ => exact .none

theorem SkelRel.step {k : Kind} (hk : isOpaque k = false) {a b : J} (h : SkelRel k a b) (t : String) :
    OptRel (memberKind k t) (Spec.Pointer.step a t) (Spec.Pointer.step b t) := by
  cases h with
  | opq _ _ _ ho => rw [hk] at ho; cases ho
  | refl => exact OptRel.refl _ _
  | obj _ m m' hm => exact SkelKvs.lookup t hm
  | arr _ xs ys ha =>
    simp only [Spec.Pointer.step]
    cases hn : Spec.Pointer.natOfDigits t.toList with
    | none => exact .none
    | some i =>
      rw [memberKind_index k hn]
      exact SkelArr.get i ha

-- `E` is `excluded o` in every use (Properties/C01Skeleton.lean)
def Keeps (E : List String) (d0 d : J) : Prop :=
  ∀ key, key ∉ E → OptRel (memberKind .swagger key) (d0.get? key) (d.get? key)

theorem Keeps.refl (E : List String) (d : J) : Keeps E d d := fun _ _ => OptRel.refl _ _

theorem Keeps.trans {E : List String} {a b c : J} (h1 : Keeps E a b) (h2 : Keeps E b c) : Keeps E a c :=
  fun key hk => (h1 key hk).trans (h2 key hk)

theorem Keeps.of_get? {E : List String} {d0 d d' : J} (h : Keeps E d0 d)
    (he : ∀ key, key ∉ E → d'.get? key = d.get? key) : Keeps E d0 d' := by
  intro key hk
  rw [he key hk]
  exact h key hk

theorem _root_.Proofs.FlattenBase.Prim.skelRel {d d' : J} (h : Prim d d') : SkelRel .swagger d d' :=
  let ⟨toks, n, k, v, hw, hk, hs⟩ := h.setAt
  setAt_skelRel toks .swagger d n k v d' hw (by simp [isOpaque, hk]) hs

theorem keeps_docInv (E : List String) (hE : "definitions" ∈ E) (d0 : J) : DocInv (Keeps E d0) :=
  .of_prim (fun _ _ h hp k hk => (hp k hk).trans (h.skelRel.get? rfl k))
    fun d v hp => hp.of_get? fun key hk => get?_set_ne d "definitions" key v (fun e => hk (e ▸ hE))

theorem _root_.Proofs.FlattenPhases.Writes.keeps {D : J → J → Prop} {E : List String} (hE : "definitions" ∈ E) {a b : J}
    (h : Writes D a b) : Keeps E a b :=
  h.inv (keeps_docInv E hE a) (Keeps.refl E a)

/-- the RemoveUnused clause of C06: no shared section comes back -/
theorem _root_.Proofs.FlattenPhases.Writes.noShared {D : J → J → Prop} {a b : J} (h : Writes D a b) (hn : NoShared a) :
    NoShared b :=
  have k := h.keeps (E := ["definitions"]) (.head _)
  ⟨(k "parameters" (by simp)).eq_none hn.1, (k "responses" (by simp)).eq_none hn.2⟩

theorem memberKind_other (t : String) : memberKind .other t = .other := rfl

mutual
  /-- `other`: anything that is not on the way to a schema -/
  theorem SkelRel.eq_of_other : ∀ {a b : J}, SkelRel .other a b → a = b
    | _, _, .opq _ _ _ h => by simp [isOpaque, isSchemaKind] at h
    | _, _, .refl _ _ => rfl
    | _, _, .obj _ m m' h => by rw [SkelKvs.eq_of_other h]
    | _, _, .arr _ xs ys h => by rw [SkelArr.eq_of_other h]
  theorem SkelKvs.eq_of_other : ∀ {a b : List (String × J)}, SkelKvs .other a b → a = b
    | _, _, .nil _ => rfl
    | _, _, .cons _ t v v' rest rest' hv hr => by
      rw [SkelRel.eq_of_other (show SkelRel .other v v' from hv), SkelKvs.eq_of_other hr]
  theorem SkelArr.eq_of_other : ∀ {a b : List J}, SkelArr .other a b → a = b
    | _, _, .nil _ => rfl
    | _, _, .cons _ x y xs ys hx hr => by
      rw [SkelRel.eq_of_other (show SkelRel .other x y from hx), SkelArr.eq_of_other hr]
end

theorem OptRel.eq_of_other {a b : Option J} (h : OptRel .other a b) : a = b := by
  cases h with
  | none => rfl
  | some a b hab => rw [SkelRel.eq_of_other hab]

/-- the token path leaves the way to the schemas: some prefix of it reaches a position of kind `other`
    through positions the phases cannot rewrite wholesale -/
def reachesOther : Kind → List String → Bool
  | k, [] => k == .other
  | k, t :: ts => k == .other || (!isOpaque k && reachesOther (memberKind k t) ts)

theorem SkelRel.get_eq : ∀ (toks : List String) {k : Kind} {a b : J}, SkelRel k a b → reachesOther k toks = true →
    Spec.Pointer.get a toks = Spec.Pointer.get b toks
  | [], k, a, b, h, hr => by
    simp only [reachesOther, beq_iff_eq] at hr
    subst hr
    rw [SkelRel.eq_of_other h]
  | t :: ts, k, a, b, h, hr => by
    simp only [reachesOther, Bool.or_eq_true, beq_iff_eq, Bool.and_eq_true, Bool.not_eq_true'] at hr
    rcases hr with hr | ⟨hk, hr⟩
    · subst hr
      rw [SkelRel.eq_of_other h]
    · exact (h.step hk t).bind_congr fun _ _ hc => SkelRel.get_eq ts hc hr

end Proofs.Skeleton
