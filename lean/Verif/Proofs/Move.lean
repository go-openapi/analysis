import Verif.Proofs.MoveBase

/-!
  The naming move of Flatten preserves meaning.

  Before: a root document `.obj kvs` holding an inline schema `.obj sch` at the token path `toks`.
  After: the schema is saved as the new definition `n` (with the `x-go-gen-location` marker) and a
  `$ref` node `{"$ref": r}` is left at `toks`, where `r` designates `#/definitions/n`.
  Claim: every allowed position (`Allowed`) denotes the same (possibly infinite) tree as before, and the
  positions inside the moved schema denote what the corresponding positions under the new definition denote.
-/

namespace Proofs.Move
open J Replace Spec.Meaning Proofs.MoveBase Proofs.Bisim Proofs.Retarget Proofs.SetAt Proofs.RetargetModel

def AllCanon (p : List String) : Prop := ∀ t ∈ p, CanonTok t

theorem allCanon_of_all {p : List String} (h : p.all canonTokB = true) : AllCanon p :=
  fun t ht => List.all_eq_true.1 h t ht

theorem AllCanon.concat {p : List String} {k : String} (hp : AllCanon p) (hk : CanonTok k) : AllCanon (p ++ [k]) :=
  fun x hx => (List.mem_append.1 hx).elim (hp x) fun h => List.mem_singleton.1 h ▸ hk

def Below (toks p : List String) : Prop := ∃ t, t ≠ [] ∧ p = toks ++ t

def defn (n : String) : List String := ["definitions", n]

structure Allowed (toks : List String) (n : String) (p : List String) : Prop where
  ne_root : p ≠ []
  ne_defs : p ≠ ["definitions"]
  not_new : ¬ (defn n <+: p)
  not_below : ¬ Below toks p
  canon : AllCanon p

structure Setting where
  kvs : List (String × J)
  toks : List String
  sch : List (String × J)
  n : String
  r : String
  loc : J
  T : List (String × Pos)
  rest : Bundle
  d1 : J
  hget : Spec.Pointer.get (.obj kvs) toks = some (.obj sch)
  hnoref : Doc.refStr (.obj sch) = ""
  hset : setAt (.obj kvs) toks (refNode r) = some d1
  htoks1 : toks ≠ []
  htoks2 : toks ≠ ["definitions"]
  hcanonToks : AllCanon toks
  hdefs : ∀ v, lookup "definitions" kvs = some v → ∃ defs, v = .obj defs
  hfresh : lookup n ((J.obj kvs).getObj "definitions") = none
  hcanonN : CanonTok n
  hkeys : keysCanon (.obj kvs) = true
  hrUnused : ∀ p j, Spec.Pointer.get (.obj kvs) p = some j → Doc.refStr j ≠ r

namespace Setting
variable (S : Setting)

def saved : J := (J.obj S.sch).set marker S.loc

def d2 : J := Flatten.save S.d1 S.n S.saved

def b1 : Bundle := { docs := ("", .obj S.kvs) :: S.rest.docs, refs := ("", S.T) :: S.rest.refs }
def b2 : Bundle :=
  { docs := ("", S.d2) :: S.rest.docs, refs := ("", (S.r, (("", defn S.n) : Pos)) :: S.T) :: S.rest.refs }

theorem d1_obj : ∃ kvs1, S.d1 = .obj kvs1 ∧ ∀ v, lookup "definitions" kvs1 = some v → ∃ defs, v = .obj defs := by
  have hset := S.hset
  cases ht : S.toks with
  | nil => exact absurd ht S.htoks1
  | cons t ts =>
    rw [ht] at hset
    obtain ⟨c, c', hs, hc, hp⟩ := setAt_cons_iff.1 hset
    refine ⟨_, hp.symm, fun v hv => ?_⟩
    by_cases htd : t = "definitions"
    · subst htd
      rw [lookup_setKv_self] at hv
      cases hv
      obtain ⟨defs, rfl⟩ := S.hdefs c hs
      -- `ts ≠ []` since `toks ≠ ["definitions"]`: the definitions map is rewritten below itself
      cases ts with
      | nil => exact absurd ht S.htoks2
      | cons t2 ts2 => exact (setAt_obj_keys hc).imp fun _ h => h.1
    · rw [lookup_setKv_ne _ _ _ _ (Ne.symm htd)] at hv
      exact S.hdefs v hv

theorem get_d2_allowed (p : List String) (hp : Allowed S.toks S.n p) :
    Spec.Pointer.get S.d2 p = Spec.Pointer.get S.d1 p := by
  obtain ⟨kvs1, hd1, hdefs1⟩ := S.d1_obj
  unfold d2
  rw [hd1]
  cases p with
  | nil => exact absurd rfl hp.ne_root
  | cons k rest =>
    by_cases hk : k = "definitions"
    · subst hk
      cases rest with
      | nil => exact absurd rfl hp.ne_defs
      | cons m r2 =>
        have hm : m ≠ S.n := by
          intro e; subst e
          exact hp.not_new ⟨r2, rfl⟩
        exact get_save_def_other kvs1 S.n S.saved m r2 hm hdefs1
    · exact get_save_other kvs1 S.n S.saved k rest hk

theorem toks_allowed : Allowed S.toks S.n S.toks where
  ne_root := S.htoks1
  ne_defs := S.htoks2
  not_new := by
    -- `definitions/n` a prefix of `toks`: then `hget` reads through the definition `n`, absent by `hfresh`
    rintro ⟨t, ht⟩
    have hg := S.hget
    rw [← ht] at hg
    simp only [defn, List.cons_append, List.nil_append, get_cons_obj] at hg
    have hf := S.hfresh
    cases hl : lookup "definitions" S.kvs with
    | none => simp [hl] at hg
    | some v =>
      obtain ⟨defs, rfl⟩ := S.hdefs v hl
      simp only [getObj, get?, hl] at hf
      simp [hl, get_cons_obj, hf] at hg
  not_below := fun ⟨_, ht, h⟩ => ht (List.self_eq_append_right.1 h)
  canon := S.hcanonToks

theorem get_d2_toks : Spec.Pointer.get S.d2 S.toks = some (refNode S.r) := by
  rw [S.get_d2_allowed S.toks S.toks_allowed]
  exact get_setAt_self S.hset

theorem get_d2_new (t : List String) : Spec.Pointer.get S.d2 (defn S.n ++ t) = Spec.Pointer.get S.saved t := by
  obtain ⟨kvs1, hd1, _⟩ := S.d1_obj
  unfold d2
  rw [hd1]
  exact get_save_def_self kvs1 S.n S.saved t

theorem refStr_saved : Doc.refStr S.saved = "" :=
  (getStr_set_ne _ marker "$ref" _ (by decide)).trans S.hnoref

theorem refStr_refNode (r : String) : Doc.refStr (refNode r) = r := by
  simp [Doc.refStr, refNode, getStr, get?, lookup]

theorem b1_eq : S.b1 = bundleWith (.obj S.kvs) S.T S.rest := rfl

theorem b2_eq : S.b2 = bundleWith S.d2 ((S.r, (("", defn S.n) : Pos)) :: S.T) S.rest := rfl

theorem target_ne_r (s : String) (hs : s ≠ S.r) : S.b2.target "" s = S.b1.target "" s := by
  have : (s == S.r) = false := by simpa using hs
  rw [b1_eq, b2_eq, RetargetModel.target_root, RetargetModel.target_root, List.lookup, this]

theorem ends_toks : Ends S.b1 ("", S.toks) := ⟨_, (node_root ..).trans S.hget, S.hnoref⟩

theorem ends_new : Ends S.b2 ("", defn S.n) :=
  ⟨_, (node_root ..).trans (by simpa [Spec.Pointer.get] using S.get_d2_new []), S.refStr_saved⟩

theorem hop_toks (hr : S.r ≠ "") : Hop S.b2 ("", S.toks) ("", defn S.n) := by
  refine ⟨_, (node_root ..).trans S.get_d2_toks, by rwa [refStr_refNode], ?_⟩
  simp [refStr_refNode, Bundle.target, b2, List.lookup]

/-- third clause: `t` does not begin with the marker, which `saved` has written at its top level -/
def R (p q : Pos) : Prop :=
  (p.1 ≠ "" ∧ q = p) ∨
  (∃ pp, Allowed S.toks S.n pp ∧ p = ("", pp) ∧ q = ("", pp)) ∨
  (∃ t, AllCanon t ∧ (∀ k t', t = k :: t' → k ≠ marker) ∧ p = ("", S.toks ++ t) ∧ q = ("", defn S.n ++ t))

def TargetsOK : Prop :=
  ∀ doc s q, S.b1.target doc s = some q → q.1 = "" → Allowed S.toks S.n q.2

/-- the one related pair whose nodes differ: the second bundle holds the new `$ref` -/
def AtRef (p q : Pos) : Prop := p = ("", S.toks) ∧ q = ("", S.toks)

theorem R_self_target (ht : S.TargetsOK) {p t : Pos} (hh : Hop S.b1 p t) : S.R t t := by
  obtain ⟨_, _, _, h⟩ := hh
  obtain ⟨td, tp⟩ := t
  by_cases hq : td = ""
  · subst hq
    exact Or.inr (Or.inl ⟨tp, ht _ _ _ h rfl, rfl, rfl⟩)
  · exact Or.inl ⟨hq, rfl⟩

theorem R_toks_new : S.R ("", S.toks) ("", defn S.n) :=
  Or.inr (Or.inr ⟨[], nofun, nofun, by simp, by simp⟩)

/-- a `$ref` found away from `AtRef` is not the new string `r` (`hrUnused`) -/
theorem rel_sim {p q : Pos} (hR : S.R p q) (hne : ¬ S.AtRef p q) :
    NodeSim (S.b1.node p) (S.b2.node q) ∧
      ∀ a, S.b1.node p = some a → S.b2.target q.1 (Doc.refStr a) = S.b1.target p.1 (Doc.refStr a) := by
  rcases hR with ⟨hd, rfl⟩ | ⟨pp, hal, rfl, rfl⟩ | ⟨t, hct, hmk, rfl, rfl⟩
  · exact ⟨.of_eq (node_nonroot hd), fun _ _ => target_nonroot hd _⟩
  · rw [b1_eq, b2_eq, node_root, node_root, S.get_d2_allowed pp hal]
    refine ⟨get_setAt_off (old := .obj S.sch) (fun _ => nofun) (fun _ => by simp [refNode]) S.hset S.hget S.hcanonToks
        pp hal.canon ?_,
      fun a ha => S.target_ne_r _ (S.hrUnused pp a ha)⟩
    rintro ⟨t, rfl⟩
    cases t with
    | nil => exact hne ⟨by simp, by simp⟩
    | cons a t' => exact hal.not_below ⟨a :: t', nofun, rfl⟩
  · rw [b1_eq, b2_eq, node_root, node_root, S.get_d2_new t]
    refine ⟨?_, fun a ha => S.target_ne_r _ (S.hrUnused _ a ha)⟩
    rw [PointerProof.get_append, S.hget, Option.bind_some]
    cases t with
    | nil =>
      -- the saved schema differs from the moved one by the marker only
      exact Or.inr ⟨_, _, rfl, rfl, S.refStr_saved.trans S.hnoref.symm,
        congrArg (List.map fun kv : String × J => kv.1) (visible_setKv_marker S.loc S.sch).symm⟩
    | cons k t' => exact .of_eq (get_set_ne (.obj S.sch) S.loc t' (hmk k t' rfl))

theorem rel_local {p q : Pos} (hR : S.R p q) (hne : ¬ S.AtRef p q) :
    (Ends S.b2 q ↔ Ends S.b1 p) ∧ ∀ t, Hop S.b2 q t ↔ Hop S.b1 p t :=
  ⟨(S.rel_sim hR hne).1.ends_iff, (S.rel_sim hR hne).1.hop_iff (S.rel_sim hR hne).2⟩

/-- one hop later at most: the `$ref` left at `toks` -/
theorem chase_fwd (ht : S.TargetsOK) (hr : S.r ≠ "") : ∀ (h : Nat) (p q p' : Pos), S.R p q → chase S.b1 h p = some p' →
    ∃ q', chase S.b2 (h + 1) q = some q' ∧ S.R p' q' := by
  refine chase_sim (s := 1) ?_ ?_
  · intro p q hR he
    by_cases hsp : S.AtRef p q
    · obtain ⟨rfl, rfl⟩ := hsp
      exact ⟨_, (chase_hop (S.hop_toks hr) 1).trans (chase_end S.ends_new 0), S.R_toks_new⟩
    · exact ⟨q, chase_end ((S.rel_local hR hsp).1.2 he) 1, hR⟩
  · intro p q t hR hh
    have hsp : ¬ S.AtRef p q := fun e => hh.not_ends (e.1 ▸ S.ends_toks)
    exact ⟨t, t, .refl _, S.R_self_target ht hh, Or.inl (((S.rel_local hR hsp).2 t).2 hh)⟩

/-- the hop from `toks` to the new definition is answered by no hop -/
theorem chase_bwd (ht : S.TargetsOK) (hr : S.r ≠ "") : ∀ (h : Nat) (q p q' : Pos), S.R p q → chase S.b2 h q = some q' →
    ∃ p', chase S.b1 h p = some p' ∧ S.R p' q' := by
  refine chase_sim (s := 0) (R := fun q p => S.R p q) ?_ ?_
  · intro q p hR he
    have hsp : ¬ S.AtRef p q := fun e => (S.hop_toks hr).not_ends (e.2 ▸ he)
    exact ⟨p, chase_end ((S.rel_local hR hsp).1.1 he) 0, hR⟩
  · intro q p t hR hh
    by_cases hsp : S.AtRef p q
    · obtain ⟨rfl, rfl⟩ := hsp
      cases hh.unique (S.hop_toks hr)
      exact ⟨_, _, .refl _, S.R_toks_new, Or.inr rfl⟩
    · have hh1 := ((S.rel_local hR hsp).2 t).1 hh
      exact ⟨t, t, .refl _, S.R_self_target ht hh1, Or.inl hh1⟩

theorem allowed_child (pp : List String) (k : String) (hal : Allowed S.toks S.n pp) (hne : pp ≠ S.toks)
    (hk : CanonTok k) : Allowed S.toks S.n (pp ++ [k]) where
  ne_root := by simp
  ne_defs := fun h => hal.ne_root (List.append_inj_left' (s₂ := []) h rfl)
  not_new := fun h => (List.prefix_concat_iff.1 h).elim
    (fun e => hal.ne_defs (List.append_inj_left' (e.symm : pp ++ [k] = ["definitions"] ++ [S.n]) rfl)) hal.not_new
  not_below := by
    rintro ⟨t, htne, ht⟩
    rcases List.prefix_concat_iff.1 ⟨t, ht.symm⟩ with e | ⟨t', e⟩
    · exact htne (by simpa using e.trans ht)
    · cases t' with
      | nil => exact hne (by simpa using e.symm)
      | cons a t'' => exact hal.not_below ⟨a :: t'', nofun, e.symm⟩
  canon := hal.canon.concat hk

theorem rel_kids {p q : Pos} {a : J} (hR : S.R p q) (hne : ¬ S.AtRef p q) (hn : S.b1.node p = some a) :
    Kids (fun k => S.R (child p k) (child q k)) a := by
  rcases hR with ⟨hd, rfl⟩ | ⟨pp, hal, rfl, rfl⟩ | ⟨t, hct, hmk, rfl, rfl⟩
  · exact Kids.const fun _ => Or.inl ⟨hd, rfl⟩
  · rw [b1_eq, node_root] at hn
    exact (kids_canon S.hkeys hn).mono fun k hk =>
      Or.inr (Or.inl ⟨_, S.allowed_child pp k hal (fun e => hne ⟨by rw [e], by rw [e]⟩) hk.1, rfl, rfl⟩)
  · rw [b1_eq, node_root] at hn
    refine (kids_canon S.hkeys hn).mono fun k hk =>
      Or.inr (Or.inr ⟨t ++ [k], hct.concat hk.1, fun a t' e => ?_, by simp [child], by simp [child]⟩)
    cases t with
    | nil => exact (List.cons.inj e).1 ▸ hk.2
    | cons b t2 => exact (List.cons.inj e).1 ▸ hmk b t2 rfl

/-- the bound on `$ref` chains is not what makes a chain of `b` fail.  Weaker than `RSetting.Adequate b hops`: a chain
    that ends within `hops + 1` then ends within `hops`. -/
def Stable (b : Bundle) (hops : Nat) : Prop := ∀ p, chase b hops p = none → chase b (hops + 1) p = none

/-- one more hop on the rewritten side: the `$ref` left behind -/
theorem move_preserves (ht : S.TargetsOK) (hr : S.r ≠ "") (hops : Nat) (hst : Stable S.b1 hops) :
    ∀ n p q, S.R p q → unfold S.b1 hops n p = unfold S.b2 (hops + 1) n q := by
  refine bisim_of_sim (S.chase_fwd ht hr hops) ?_ ?_
  · intro p q q' hR hc
    obtain ⟨p', hp', _⟩ := S.chase_bwd ht hr (hops + 1) q p q' hR hc
    cases hc1 : chase S.b1 hops p with
    | none => cases (hst p hc1).symm.trans hp'
    | some x => exact ⟨x, rfl⟩
  · intro x y a c hR ha hc _ hrc
    -- the second chain has ended: `y` is not the place that now holds the `$ref`
    have hne : ¬ S.AtRef x y := fun e => (S.hop_toks hr).not_ends (e.2 ▸ ⟨c, hc, hrc⟩)
    exact (S.rel_sim hR hne).1.nodesOK ha hc (S.rel_kids hR hne ha)

end Setting
end Proofs.Move
