import Verif.Proofs.IndexSchema
import Verif.Proofs.ListLemmas

/-!
  Document level: the log of `Analyzer.analyze` is, up to a permutation, the per-position entries of
  the positions the specification enumerates, plus the entries of the string sets and the operations (`junk`).
  `PA` / `HA` / `RA` / `opT` / `piT`: everything logged for one parameter / header / response / operation / path item.
-/

namespace IndexProof
open J Analyzer Spec.Index Str

def parRefE (p : Pos) : List Ent := refEnt "parameter" (ptr p.1) p.2
def parPatE (p : Pos) : List Ent := patEnum "parameter" (ptr p.1) p.2
def respE (p : Pos) : List Ent := refEnt "response" (ptr p.1) p.2
def hdrE (p : Pos) : List Ent := patEnum "header" (ptr p.1) p.2
def piE (p : Pos) : List Ent := refEnt "pathItem" (ptr p.1) p.2

/-- `listed`: it sits in a parameter list, so it may be a `$ref` -/
def PA (listed : Bool) (p : Pos) : List Ent :=
  (if listed then parRefE p else []) ++ parPatE p ++ (itemsOf p).flatMap (itE "parameter") ++
  (if p.2.getStr "in" = "body" then (Spec.Index.schemaOf p).flatMap schE else [])

def HA (h : Pos) : List Ent := hdrE h ++ (itemsOf h).flatMap (itE "header")

/-- `op`: it belongs to an operation, so it may be a `$ref` -/
def RA (op : Bool) (p : Pos) : List Ent :=
  (if op then respE p else []) ++ (headersOf p).flatMap HA ++ (Spec.Index.schemaOf p).flatMap schE

def Good (p : Pos) : Prop := ∀ t ∈ p.1, GoodTok t

/-- `bodyOnly`: the analyzer takes the schema of a path-level parameter whatever its `in` says (`analyzeOperations`);
    the specification counts body parameters only -/
structure GoodParam (p : Pos) : Prop where
  self : Good p
  items : ∀ q ∈ itemsOf p, Good q
  schema : ∀ q ∈ Spec.Index.schemaOf p, Good q
  bodyOnly : p.2.getStr "in" ≠ "body" → p.2.get? "schema" = none

/-- `name`: the analyzer joins header names unescaped (`analyzeHeaders`) -/
structure GoodHeader (h : Pos) : Prop where
  self : Good h
  name : Str.esc (lastTok h.1) = lastTok h.1
  items : ∀ q ∈ itemsOf h, Good q

structure GoodResp (p : Pos) : Prop where
  self : Good p
  headers : ∀ h ∈ headersOf p, GoodHeader h
  schema : ∀ q ∈ Spec.Index.schemaOf p, Good q

theorem flatMap_perm_map {α} {l : List α} (mk : α → Pos) {F : α → List Ent} {E : Pos → List Ent}
    (h : ∀ a ∈ l, (F a).Perm (E (mk a))) : (l.flatMap F).Perm ((l.map mk).flatMap E) := by
  rw [List.flatMap_map]
  exact List.flatMap_perm_congr _ h

theorem analyzeItems_perm (toks : List String) (n : J) (loc : String) (hne : toks ≠ [])
    (ht : ∀ t ∈ toks, GoodTok t) (hg : ∀ q ∈ itemsOf (toks, n), Good q) :
    (analyzeItems n (ptr toks) loc).Perm ((itemsOf (toks, n)).flatMap (itE loc)) := by
  unfold analyzeItems itemsOf at *
  cases h : n.get? "items" with
  | none => simp
  | some it =>
    rw [h] at hg
    rw [join1_lit toks "items" ht hne goodTok_items esc_items]
    exact aItems_perm loc _ it (by simp) hg

theorem schemaOf_eq (toks : List String) (n : J) (hl : 2 ≤ toks.length)
    (ht : ∀ t ∈ toks, GoodTok t) (hg : ∀ q ∈ Spec.Index.schemaOf (toks, n), Good q) :
    Analyzer.schemaOf n (ptr toks) = (Spec.Index.schemaOf (toks, n)).flatMap schE := by
  unfold Analyzer.schemaOf Spec.Index.schemaOf analyzeSchema at *
  cases h : n.get? "schema" with
  | none => simp
  | some s =>
    rw [h] at hg
    rw [decide_eq_false (ptr_ne_definitions toks hl)]
    exact child_eq toks "schema" s hl ht hg (aSchema_eq _ s)

/-- the body that `analyzeParameter`, the path-level loop of `analyzeOperations` and (`listed := false`, summands in
    another order) the `parameters` loop of `analyze` share, with the key already `ptr p.1` -/
theorem param_perm (listed : Bool) (p : Pos) (hl : 2 ≤ p.1.length) (hp : GoodParam p) :
    ((if listed then refEnt "parameter" (ptr p.1) p.2 else []) ++ patEnum "parameter" (ptr p.1) p.2 ++
      analyzeItems p.2 (ptr p.1) "parameter" ++
      (if p.2.getStr "in" = "body" then Analyzer.schemaOf p.2 (ptr p.1) else [])).Perm (PA listed p) := by
  have hne : p.1 ≠ [] := by intro e; simp [e] at hl
  unfold PA parRefE parPatE
  refine List.Perm.append (List.Perm.append_left _ (analyzeItems_perm p.1 p.2 _ hne hp.self hp.items)) ?_
  rw [schemaOf_eq p.1 p.2 hl hp.self hp.schema]

theorem schemaOf_bodyOnly (p : Pos) (key : String)
    (h : p.2.getStr "in" ≠ "body" → p.2.get? "schema" = none) :
    Analyzer.schemaOf p.2 key = if p.2.getStr "in" = "body" then Analyzer.schemaOf p.2 key else [] := by
  split
  · rfl
  · rename_i hb
    simp [Analyzer.schemaOf, h hb]

theorem analyzeHeaders_perm (toks : List String) (res : J) (hne : toks ≠ [])
    (hg : ∀ h ∈ headersOf (toks, res), GoodHeader h) :
    (analyzeHeaders (ptr toks) res true).Perm ((headersOf (toks, res)).flatMap HA) := by
  unfold analyzeHeaders headersOf at *
  refine flatMap_perm_map _ fun kv hkv => ?_
  have hh := hg _ (List.mem_map_of_mem hkv)
  have hkey : Str.join [ptr toks, "headers", kv.1] = ptr (toks ++ ["headers", kv.1]) := by
    simpa only [List.map_cons, List.map_nil, esc_headers,
      show Str.esc kv.1 = kv.1 by simpa [lastTok] using hh.name] using join_ptr_toks hh.self hne
  simp only [hkey, HA, hdrE]
  rw [List.filter_eq_self.2 (by intro e _; cases e <;> rfl)]
  exact List.perm_append_comm.trans
    (List.Perm.append_left _ (analyzeItems_perm _ kv.2 _ (by simp) hh.self hh.items))

theorem analyzeResponse_perm (toks : List String) (name : String) (res : J) (hne : toks ≠ [])
    (hname : Str.esc name = name) (hg : GoodResp (toks ++ ["responses", name], res)) :
    (analyzeResponse (ptr toks) name res true).Perm (RA true (toks ++ ["responses", name], res)) := by
  have hkey : Str.join [ptr toks, "responses", name] = ptr (toks ++ ["responses", name]) := by
    simpa only [List.map_cons, List.map_nil, esc_responses, hname] using join_ptr_toks hg.self hne
  unfold analyzeResponse RA respE
  simp only [hkey, if_true]
  rw [schemaOf_eq _ res (by simp) hg.self hg.schema]
  exact List.Perm.append_right _ (List.Perm.append_left _ (analyzeHeaders_perm _ res (by simp) hg.headers))

theorem analyzeParameter_perm (toks : List String) (i : Nat) (param : J) (hne : toks ≠ [])
    (hp : GoodParam (toks ++ ["parameters", toString i], param)) :
    (analyzeParameter (ptr toks) i param).Perm (PA true (toks ++ ["parameters", toString i], param)) := by
  have hkey : Str.join [ptr toks, "parameters", toString i] = ptr (toks ++ ["parameters", toString i]) := by
    simpa only [List.map_cons, List.map_nil, esc_parameters, esc_itoa] using join_ptr_toks hp.self hne
  have := param_perm true (toks ++ ["parameters", toString i], param) (by simp) hp
  unfold analyzeParameter Str.itoa
  simpa only [hkey, if_true] using this

/-- the inner `flatMap` body of `Spec.Index.opResponses` (`opResponses_eq`); `opsOf` likewise, of `operations` -/
def respOf (o : Pos) : List Pos :=
  ((o.2.getObj "responses").filter fun kv => isResponseKey kv.1).map fun kv =>
    (o.1 ++ ["responses", kv.1], kv.2)

/-- the share of one operation in `junk` below -/
def opJunk (o : String × String × Pos) : List Ent :=
  (o.2.2.2.getStrs "consumes").map Ent.consumes ++ (o.2.2.2.getStrs "produces").map Ent.produces ++
  ((o.2.2.2.getArr "security").flatMap fun req =>
    match req with | .obj kvs => kvs.map fun kv => Ent.auth kv.1 | _ => []) ++
  [Ent.op o.1 o.2.1 o.2.2.2]

def opT (o : String × String × Pos) : List Ent :=
  opJunk o ++ (paramsOf o.2.2).flatMap (PA true) ++ (respOf o.2.2).flatMap (RA true)

theorem esc_of_responseKey {k : String} (h : isResponseKey k = true) : Str.esc k = k := by
  rcases Bool.or_eq_true _ _ ▸ h with h | h
  · rw [of_decide_eq_true h]
    exact esc_of_plain _ (by simp) (by simp)
  · simp only [Doc.isCodeKey, decide_eq_true_eq] at h
    exact esc_of_digits _ h.2.2.2

theorem responses_perm (f : Facts) (hf : f.defaultHeaderEnums = true) (toks : List String) (op : J)
    (hne : toks ≠ []) (hR : ∀ r ∈ respOf (toks, op), GoodResp r) :
    ((op.getObj "responses").flatMap fun kv =>
       if kv.1 = "default" then analyzeResponse (ptr toks) "default" kv.2 f.defaultHeaderEnums
       else if Doc.isCodeKey kv.1 then analyzeResponse (ptr toks) kv.1 kv.2 true
       else []).Perm ((respOf (toks, op)).flatMap (RA true)) := by
  unfold respOf at *
  rw [List.flatMap_map, List.flatMap_filter']
  refine List.flatMap_perm_congr _ fun kv hkv => ?_
  -- the analyzer's two branches are one: under a response key, `analyzeResponse` with that key
  have e : (if kv.1 = "default" then analyzeResponse (ptr toks) "default" kv.2 f.defaultHeaderEnums
      else if Doc.isCodeKey kv.1 then analyzeResponse (ptr toks) kv.1 kv.2 true else []) =
      if isResponseKey kv.1 then analyzeResponse (ptr toks) kv.1 kv.2 true else [] := by
    unfold isResponseKey
    by_cases h1 : kv.1 = "default"
    · simp [h1, hf]
    · simp [h1]
  rw [e]
  split
  · rename_i hk
    exact analyzeResponse_perm toks kv.1 kv.2 hne (esc_of_responseKey hk)
      (hR _ (List.mem_map.2 ⟨kv, List.mem_filter.2 ⟨hkv, hk⟩, rfl⟩))
  · rfl

theorem match_getObj {β} (n : J) (k : String) (F : String × J → List β) :
    (match n.get? k with
     | some (.obj rs) => rs.flatMap F
     | _ => []) = (n.getObj k).flatMap F := by
  unfold J.getObj
  split <;> simp_all

theorem methods_facts : ∀ m ∈ Doc.methods,
    GoodTok m ∧ Str.esc m = m ∧ Str.toLowerAscii (Str.toUpperAscii m) = m := by
  unfold GoodTok
  decide +kernel

theorem analyzeOperation_perm (f : Facts) (hf : f.defaultHeaderEnums = true) (path m : String) (op : J)
    (hm : m ∈ Doc.methods) (hpath : ∀ t ∈ ["paths", path], GoodTok t)
    (hP : ∀ p ∈ paramsOf (["paths", path, m], op), GoodParam p)
    (hR : ∀ r ∈ respOf (["paths", path, m], op), GoodResp r) :
    (analyzeOperation f (Str.toUpperAscii m) path op).Perm
      (opT (Str.toUpperAscii m, path, (["paths", path, m], op))) := by
  obtain ⟨hm1, hm2, hm3⟩ := methods_facts m hm
  have hkey : Str.join ["/paths", Str.esc path, m] = ptr ["paths", path, m] := by
    simpa only [List.map_cons, List.map_nil, hm2] using key_root root_paths (ks := [path, m])
      (by simpa using ⟨hpath "paths" (by simp), hpath path (by simp), hm1⟩)
  unfold analyzeOperation opT opJunk
  simp only [hm3, hkey]
  refine List.Perm.append (List.Perm.append_left _ (flatMap_perm_map _ fun ip hip =>
    analyzeParameter_perm _ ip.1 ip.2 (by simp) (hP _ (List.mem_map_of_mem hip)))) ?_
  have h := responses_perm f hf _ op (by simp) hR
  rwa [← match_getObj] at h

def opsOf (path : String) (pi : J) : List (String × String × Pos) :=
  Doc.methods.filterMap fun m =>
    (pi.get? m).map fun op => (Str.toUpperAscii m, path, (["paths", path, m], op))

theorem flatMap_opsOf {β} (path : String) (pi : J) (F : String × String × Pos → List β) :
    (opsOf path pi).flatMap F = Doc.methods.flatMap fun m =>
      match pi.get? m with
      | some op => F (Str.toUpperAscii m, path, (["paths", path, m], op))
      | none => [] := by
  unfold opsOf
  rw [List.flatMap_filterMap']
  exact List.flatMap_congr' fun m _ => by cases pi.get? m <;> rfl

theorem operations_eq (d : J) : operations d = (Doc.pathItems d).flatMap fun kv => opsOf kv.1 kv.2 := rfl

theorem opResponses_eq (d : J) : opResponses d = (operations d).flatMap fun o => respOf o.2.2 := rfl

structure GoodOp (o : String × String × Pos) : Prop where
  params : ∀ p ∈ paramsOf o.2.2, GoodParam p
  resps : ∀ r ∈ respOf o.2.2, GoodResp r

def piT (kv : String × J) : List Ent :=
  piE (["paths", kv.1], kv.2) ++ (opsOf kv.1 kv.2).flatMap opT ++
  (paramsOf (["paths", kv.1], kv.2)).flatMap (PA true)

theorem analyzeOperations_perm (f : Facts)
    (hm : f.analyzerMethods.Perm (Doc.methods.map fun m => (Str.toUpperAscii m, m)))
    (hd : f.defaultHeaderEnums = true) (path : String) (pi : J)
    (hpath : ∀ t ∈ ["paths", path], GoodTok t) (hO : ∀ o ∈ opsOf path pi, GoodOp o)
    (hP : ∀ p ∈ paramsOf (["paths", path], pi), GoodParam p) :
    (analyzeOperations f path pi).Perm (piT (path, pi)) := by
  have hkey : Str.join ["/paths", Str.esc path] = ptr ["paths", path] := key_root root_paths (ks := [path]) hpath
  unfold analyzeOperations piT piE
  simp only [hkey]
  refine List.Perm.append (List.Perm.append_left _ ?_) ?_
  · refine ((List.Perm.flatMap_right _ hm).trans ?_)
    rw [List.flatMap_map, flatMap_opsOf]
    refine List.flatMap_perm_congr _ fun m hm => ?_
    cases hget : pi.get? m with
    | none => rfl
    | some op =>
      have hg := hO _ (List.mem_filterMap.2 ⟨m, hm, by rw [hget]; rfl⟩)
      exact analyzeOperation_perm f hd path m op hm hpath hg.params hg.resps
  · -- path-level parameters: `analyzeParameter` inlined, with the schema analyzed wherever the parameter sits
    refine flatMap_perm_map _ fun ip hip => ?_
    have hp := hP _ (List.mem_map_of_mem hip)
    have hkey2 : Str.join ["/paths", Str.esc path, "parameters", toString ip.1] =
        ptr ["paths", path, "parameters", toString ip.1] := by
      simpa only [List.map_cons, List.map_nil, esc_parameters, esc_itoa] using
        key_root root_paths (ks := [path, "parameters", toString ip.1]) hp.self
    have := param_perm true (["paths", path] ++ ["parameters", toString ip.1], ip.2) (by simp) hp
    rw [schemaOf_bodyOnly (["paths", path] ++ ["parameters", toString ip.1], ip.2) _ hp.bodyOnly]
    unfold Str.itoa
    simpa only [hkey2, if_true, List.cons_append, List.nil_append] using this

/-- the same list as `C11.positions` -/
def positions (d : J) : List Pos :=
  allSchemas d ++ listedParams d ++ sharedParams d ++ opResponses d ++ sharedResponses d ++ headers d ++
  paramItems d ++ headerItems d ++ pathItemPositions d

/-- `C11.WF`, field by field (`C11.WF.toProof`): Properties/C11.lean, which holds it, imports this file -/
structure WF' (d : J) : Prop where
  toks : ∀ p ∈ positions d, ∀ t ∈ p.1, Str.GoodTok t
  headerNames : ∀ h ∈ headers d, Str.esc (lastTok h.1) = lastTok h.1
  bodyOnly : ∀ p ∈ listedParams d ++ sharedParams d, p.2.getStr "in" ≠ "body" → p.2.get? "schema" = none

theorem WF'.good {d : J} (h : WF' d) {p : Pos}
    (hp : p ∈ allSchemas d ∨ p ∈ listedParams d ∨ p ∈ sharedParams d ∨ p ∈ opResponses d ∨ p ∈ sharedResponses d ∨
      p ∈ headers d ∨ p ∈ paramItems d ∨ p ∈ headerItems d ∨ p ∈ pathItemPositions d) : Good p :=
  h.toks p (by simpa only [positions, List.mem_append, or_assoc] using hp)

theorem WF'.goodParam {d : J} (h : WF' d) : ∀ p ∈ listedParams d ++ sharedParams d, GoodParam p := by
  intro p hp
  refine ⟨h.good (by rcases List.mem_append.1 hp with hp | hp <;> simp [hp]), fun q hq => ?_, fun q hq => ?_,
    h.bodyOnly p hp⟩
  · have : q ∈ paramItems d := List.mem_flatMap.2 ⟨p, hp, hq⟩
    exact h.good (by simp [this])
  · by_cases hb : p.2.getStr "in" = "body"
    · have : q ∈ allSchemas d := List.mem_append_left _ (List.mem_append_left _
        (List.mem_flatMap.2 ⟨p, List.mem_filter.2 ⟨hp, by simpa using hb⟩, hq⟩))
      exact h.good (by simp [this])
    · simp [Spec.Index.schemaOf, h.bodyOnly p hp hb] at hq

theorem WF'.goodResp {d : J} (h : WF' d) : ∀ p ∈ opResponses d ++ sharedResponses d, GoodResp p := by
  intro p hp
  refine ⟨h.good (by rcases List.mem_append.1 hp with hp | hp <;> simp [hp]), fun hd hhd => ?_,
    fun q hq => ?_⟩
  · have hmem : hd ∈ headers d := List.mem_flatMap.2 ⟨p, hp, hhd⟩
    refine ⟨h.good (by simp [hmem]), h.headerNames hd hmem, fun q hq => ?_⟩
    have : q ∈ headerItems d := List.mem_flatMap.2 ⟨hd, hmem, hq⟩
    exact h.good (by simp [this])
  · have : q ∈ allSchemas d :=
      List.mem_append_left _ (List.mem_append_right _ (List.mem_flatMap.2 ⟨p, hp, hq⟩))
    exact h.good (by simp [this])

theorem WF'.goodPath {d : J} (h : WF' d) : ∀ kv ∈ Doc.pathItems d, ∀ t ∈ ["paths", kv.1], GoodTok t := by
  intro kv hkv
  have : (["paths", kv.1], kv.2) ∈ pathItemPositions d := List.mem_map.2 ⟨kv, hkv, rfl⟩
  exact h.good (p := (["paths", kv.1], kv.2)) (by simp [this])

theorem WF'.goodPathParams {d : J} (h : WF' d) :
    ∀ kv ∈ Doc.pathItems d, ∀ p ∈ paramsOf (["paths", kv.1], kv.2), GoodParam p := fun kv hkv p hp =>
  h.goodParam p (List.mem_append_left _ (List.mem_append_left _ (List.mem_flatMap.2 ⟨kv, hkv, hp⟩)))

theorem WF'.goodOp {d : J} (h : WF' d) : ∀ o ∈ operations d, GoodOp o := fun o ho =>
  ⟨fun p hp => h.goodParam p
      (List.mem_append_left _ (List.mem_append_right _ (List.mem_flatMap.2 ⟨o, ho, hp⟩))),
    fun r hr => h.goodResp r (List.mem_append_left _ (List.mem_flatMap.2 ⟨o, ho, hr⟩))⟩

/-- entries that the reference, pattern, enum and schema indexes do not read (C14 reads them: `junk_filterMap`) -/
def junk (d : J) : List Ent :=
  (d.getStrs "consumes").map Ent.consumes ++ (d.getStrs "produces").map Ent.produces ++
  ((d.getArr "security").flatMap fun req =>
    match req with | .obj kvs => kvs.map fun kv => Ent.auth kv.1 | _ => []) ++
  (operations d).flatMap opJunk

def defsE (d : J) : List Ent :=
  (d.getObj "definitions").flatMap fun kv => (schemasAt ["definitions", kv.1] kv.2).flatMap schE

/-- everything `analyze` logs except `junk`, grouped by holder -/
def mid (d : J) : List Ent :=
  (listedParams d).flatMap (PA true) ++ (sharedParams d).flatMap (PA false) ++
  (opResponses d).flatMap (RA true) ++ (sharedResponses d).flatMap (RA false) ++
  (pathItemPositions d).flatMap piE ++ defsE d

/-- regrouped by kind of entry: the same leaves on both sides (method: ListLemmas.lean, `perm_of_count`) -/
theorem pathItems_perm (d : J) :
    ((Doc.pathItems d).flatMap piT).Perm
      ((pathItemPositions d).flatMap piE ++ (operations d).flatMap opJunk ++
       (listedParams d).flatMap (PA true) ++ (opResponses d).flatMap (RA true)) := by
  refine List.perm_of_count fun a => ?_
  unfold piT opT listedParams pathItemPositions
  simp only [opResponses_eq, operations_eq, List.flatMap_append, List.flatMap_map, ← List.flatMap_assoc,
    List.count_flatMap_append, List.count_append]
  omega

theorem sharedParams_perm (d : J) (h : WF' d) :
    ((d.getObj "parameters").flatMap fun kv =>
      analyzeItems kv.2 (Str.join ["/parameters", Str.esc kv.1]) "parameter" ++
      (if kv.2.getStr "in" = "body" then Analyzer.schemaOf kv.2 (Str.join ["/parameters", Str.esc kv.1]) else []) ++
      patEnum "parameter" (Str.join ["/parameters", Str.esc kv.1]) kv.2).Perm
    ((sharedParams d).flatMap (PA false)) := by
  refine flatMap_perm_map _ fun kv hkv => ?_
  have hp := h.goodParam _ (List.mem_append_right _ (List.mem_map_of_mem hkv))
  have hkey : Str.join ["/parameters", Str.esc kv.1] = ptr ["parameters", kv.1] :=
    key_root root_parameters (ks := [kv.1]) hp.self
  have := param_perm false (["parameters", kv.1], kv.2) (by simp) hp
  simp only [Bool.false_eq_true, if_false, List.nil_append] at this
  rw [hkey]
  rw [List.append_assoc] at this
  exact List.perm_append_comm.trans this

theorem sharedResponses_perm (d : J) (h : WF' d) :
    ((d.getObj "responses").flatMap fun kv =>
      analyzeHeaders (Str.join ["/responses", Str.esc kv.1]) kv.2 true ++
      Analyzer.schemaOf kv.2 (Str.join ["/responses", Str.esc kv.1])).Perm
    ((sharedResponses d).flatMap (RA false)) := by
  refine flatMap_perm_map _ fun kv hkv => ?_
  have hp := h.goodResp _ (List.mem_append_right _ (List.mem_map_of_mem hkv))
  have hkey : Str.join ["/responses", Str.esc kv.1] = ptr ["responses", kv.1] :=
    key_root root_responses (ks := [kv.1]) hp.self
  simp only [hkey, RA, Bool.false_eq_true, if_false, List.nil_append]
  rw [schemaOf_eq _ kv.2 (by simp) hp.self hp.schema]
  exact List.Perm.append_right _ (analyzeHeaders_perm _ kv.2 (by simp) hp.headers)

theorem definitions_eq (d : J) (h : WF' d) :
    ((d.getObj "definitions").flatMap fun kv => analyzeSchema kv.1 kv.2 "/definitions") = defsE d := by
  refine List.flatMap_congr' fun kv hkv => ?_
  have hg : ∀ p ∈ schemasAt ["definitions", kv.1] kv.2, Good p := fun p hp =>
    h.good (.inl (List.mem_append_right _ (List.mem_flatMap.2 ⟨kv, hkv, hp⟩)))
  unfold analyzeSchema
  cases hv : kv.2.isObj
  · rw [aSchema_nonobj _ _ _ _ hv, schemasAt_nonobj _ _ hv]; rfl
  · have hkey : Str.join ["/definitions", Str.esc kv.1] = ptr ["definitions", kv.1] :=
      key_root root_definitions (ks := [kv.1]) (hg _ (self_mem_schemasAt _ _ hv))
    rw [hkey]
    -- `lastTok`, `isTopLevel` and the `decide` in `analyzeSchema` reduce on the two-token literal path
    exact aSchema_eq ["definitions", kv.1] kv.2 (by simp) hg

theorem analyze_perm (f : Facts)
    (hm : f.analyzerMethods.Perm (Doc.methods.map fun m => (Str.toUpperAscii m, m)))
    (hd : f.defaultHeaderEnums = true) (d : J) (h : WF' d) :
    (analyze f d).Perm (junk d ++ mid d) := by
  have hpi : ((Doc.pathItems d).flatMap fun kv => analyzeOperations f kv.1 kv.2).Perm
      ((Doc.pathItems d).flatMap piT) :=
    List.flatMap_perm_congr _ fun kv hkv =>
      analyzeOperations_perm f hm hd kv.1 kv.2 (h.goodPath kv hkv)
        (fun o ho => h.goodOp o (List.mem_flatMap.2 ⟨kv, hkv, ho⟩)) (h.goodPathParams kv hkv)
  unfold analyze
  rw [definitions_eq d h]
  refine (List.Perm.append_right _ (List.Perm.append
    (List.Perm.append (List.Perm.append_left _ (hpi.trans (pathItems_perm d)))
      (sharedParams_perm d h)) (sharedResponses_perm d h))).trans ?_
  refine List.perm_of_count fun a => ?_
  simp only [junk, mid, List.count_append]
  ac_rfl

end IndexProof
