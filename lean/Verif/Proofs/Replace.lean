import Verif.Proofs.SetAt

/-!
  The model of `internal/flatten/replace` through lemmas: `walk` is pointer resolution with the kind computed on the
  way, and each of the three primitives succeeds exactly when the walk ends on a schema kind it has a case for and the
  write goes through (namespace `Replace`; the lemmas at the end are in the namespaces of their users).
-/

namespace Replace
open J

theorem walk_snoc (k0 : Kind) (d : J) (toks : List String) (t : String) :
    walk k0 d (toks ++ [t]) =
      (walk k0 d toks).bind fun jk => (Spec.Pointer.step jk.1 t).map fun c => (c, childKind jk.2 jk.1 t) := by
  induction toks generalizing k0 d with
  | nil =>
    simp only [List.nil_append, walk, Option.bind_some]
    cases Spec.Pointer.step d t <;> rfl
  | cons a as ih =>
    simp only [List.cons_append, walk]
    cases Spec.Pointer.step d a with
    | none => rfl
    | some c => exact ih (childKind k0 d a) c

theorem walk_get (k0 : Kind) (d : J) (toks : List String) :
    (walk k0 d toks).map (·.1) = Spec.Pointer.get d toks := by
  induction toks generalizing k0 d with
  | nil => rfl
  | cons a as ih =>
    simp only [walk, Spec.Pointer.get]
    cases Spec.Pointer.step d a with
    | none => rfl
    | some c => exact ih (childKind k0 d a) c

/-! ### `childKind`, one kind at a time

Stated with `rfl` so that a computation `simp [childKind_swagger]` touches one `if` cascade; `simp [childKind]` makes the
unifier evaluate string comparisons inside every nested `childKind` term it meets.  The kinds with a constant clause
(`schemaMap`, `paramArr`, `other` …) have no equation: `rfl` does. -/

theorem childKind_swagger (j : J) (t : String) : childKind .swagger j t =
    if t = "definitions" then .schemaMap else if t = "paths" then .paths
    else if t = "parameters" then .paramMap else if t = "responses" then .respMap else .other := rfl

theorem childKind_paths (j : J) (t : String) :
    childKind .paths j t = if Doc.isPathKey t then .pathItem else .other := rfl

theorem childKind_pathItem (j : J) (t : String) : childKind .pathItem j t =
    if Doc.isMethodKey t then .operation else if t = "parameters" then .paramArr else .other := rfl

theorem childKind_operation (j : J) (t : String) : childKind .operation j t =
    if t = "parameters" then .paramArr else if t = "responses" then .responses else .other := rfl

theorem childKind_responses (j : J) (t : String) :
    childKind .responses j t = if t = "default" ∨ Doc.isCodeKey t then .response else .other := rfl

theorem childKind_param (j : J) (t : String) :
    childKind .param j t = if t = "schema" then .schemaPtr else .other := rfl

theorem childKind_response (j : J) (t : String) :
    childKind .response j t = if t = "schema" then .schemaPtr else .other := rfl

theorem childKind_schemaVal (j : J) (t : String) : childKind .schemaVal j t =
    if t = "properties" ∨ t = "patternProperties" ∨ t = "definitions" then .schemaMap
    else if t = "allOf" ∨ t = "anyOf" ∨ t = "oneOf" then .schemaArr
    else if t = "not" then .notPtr
    else if t = "additionalProperties" ∨ t = "additionalItems" then
      (match j.get? t with | some (.obj _) => .schemaOrBool | _ => .other)
    else if t = "items" then
      (match j.get? t with | some (.obj _) => .schemaOrArray | some (.arr _) => .schemaArr | _ => .other)
    else .other := rfl

theorem childKind_schema {k : Kind} (hk : isSchemaKind k = true) (j : J) (t : String) :
    childKind k j t = childKind .schemaVal j t := by
  -- `cases hk` first: `rfl` is slow to fail on the kinds where it does not hold
  cases k <;> first | (cases hk; done) | rfl

theorem exists_some_pair_iff {α β} {a : α} {b : β} {Q : α → β → Prop} :
    (∃ x y, some (a, b) = some (x, y) ∧ Q x y) ↔ Q a b :=
  ⟨fun ⟨_, _, e, h⟩ => by cases e; exact h, fun h => ⟨a, b, rfl, h⟩⟩

theorem match_schemaKind {α : Type} (kind : Kind) (a b : α) :
    (match kind with
     | .schemaVal | .schemaPtr | .notPtr | .schemaOrArray | .schemaOrBool => a
     | _ => b) = if isSchemaKind kind then a else b := by
  cases kind <;> rfl

/-- the common body of `Replace.updateRef` and `Flatten.updateRefInSchema` -/
theorem setRef_ok (k : Kind) (d : J) (toks : List String) (ref : String) (d' : J) :
    (match walk k d toks with
     | none => Outcome.err "pointer does not resolve"
     | some (node, kind) =>
       match kind with
       | .schemaVal | .schemaPtr | .notPtr | .schemaOrArray | .schemaOrBool =>
         (match setAt d toks (node.set "$ref" (.str ref)) with | some d' => .ok d' | none => .err "no parent")
       | _ => .err "no schema with ref") = .ok d' ↔
    ∃ node kind, walk k d toks = some (node, kind) ∧ isSchemaKind kind = true ∧
      setAt d toks (node.set "$ref" (.str ref)) = some d' := by
  cases walk k d toks with
  | none => simp
  | some nk =>
    obtain ⟨node, kind⟩ := nk
    simp only [match_schemaKind, exists_some_pair_iff]
    cases isSchemaKind kind <;> cases setAt d toks (node.set "$ref" (.str ref)) <;> simp

theorem updateRef_ok {d : J} {key ref : String} {d' : J} : updateRef d key ref = .ok d' ↔
    ∃ node kind, walk .swagger d (keyTokens key) = some (node, kind) ∧ isSchemaKind kind = true ∧
      setAt d (keyTokens key) (node.set "$ref" (.str ref)) = some d' :=
  setRef_ok .swagger d (keyTokens key) ref d'

theorem rewriteSchemaToRef_ok {d : J} {key ref : String} {d' : J} : rewriteSchemaToRef d key ref = .ok d' ↔
    ∃ node kind, walk .swagger d (keyTokens key) = some (node, kind) ∧ isSchemaKind kind = true ∧
      kind ≠ .notPtr ∧ setAt d (keyTokens key) (refNode ref) = some d' := by
  simp only [rewriteSchemaToRef]
  cases walk .swagger d (keyTokens key) with
  | none => simp
  | some nk =>
    obtain ⟨node, kind⟩ := nk
    rw [exists_some_pair_iff]
    by_cases h1 : kind = .notPtr
    · simp [h1]
    by_cases h2 : isSchemaKind kind = true
    · cases setAt d (keyTokens key) (refNode ref) <;> simp [h1, h2]
    · simp [h1, h2]

theorem updateRefWithSchema_ok {d : J} {key : String} {sch d' : J} : updateRefWithSchema d key sch = .ok d' ↔
    ∃ node kind, walk .swagger d (keyTokens key) = some (node, kind) ∧ isSchemaKind kind = true ∧
      setAt d (keyTokens key) sch = some d' := by
  simp only [updateRefWithSchema]
  cases walk .swagger d (keyTokens key) with
  | none => simp
  | some nk =>
    obtain ⟨node, kind⟩ := nk
    rw [exists_some_pair_iff]
    by_cases h2 : isSchemaKind kind = true
    · cases setAt d (keyTokens key) sch <;> simp [h2]
    · simp [h2]

end Replace

namespace ReplaceKeys
open J Replace

theorem get_of_walk {k0 : Kind} {d : J} {toks : List String} {j : J} {k : Kind}
    (h : walk k0 d toks = some (j, k)) : Spec.Pointer.get d toks = some j := by
  rw [← walk_get k0, h]; rfl

theorem setAt_of_get (d : J) (toks : List String) (j v : J) (h : Spec.Pointer.get d toks = some j) :
    ∃ d', setAt d toks v = some d' := by
  induction toks generalizing d with
  | nil => exact ⟨v, rfl⟩
  | cons t ts ih =>
    obtain ⟨c, hs, hc⟩ := Option.bind_eq_some_iff.1 h
    obtain ⟨c', hc'⟩ := ih c hc
    exact ⟨setChild d t c', by rw [setAt_cons, hs, Option.bind_some, hc', Option.map_some]⟩

end ReplaceKeys

namespace Proofs.UpdateFrame
open J Replace

/-- What `UpdateRef` leaves in place: every member of the schema at the key other than
    `$ref` — its sibling keywords, with everything below them — is found unchanged under the same pointer. -/
theorem updateRef_keeps_siblings (d : J) (key ref : String) (d' : J) (h : updateRef d key ref = .ok d')
    (t : String) (ht : t ≠ "$ref") (rest : List String) :
    Spec.Pointer.get d' (keyTokens key ++ t :: rest) = Spec.Pointer.get d (keyTokens key ++ t :: rest) := by
  obtain ⟨node, _, hw, _, hs⟩ := updateRef_ok.1 h
  rw [PointerProof.get_append, PointerProof.get_append, ReplaceKeys.get_of_walk hw, SetAt.get_setAt_self hs]
  exact SetAt.get_set_ne node _ rest ht

end Proofs.UpdateFrame
