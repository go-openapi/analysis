import Verif.Proofs.IndexDoc

/-!
  From the per-holder log to the log grouped by index.  The insertion log splits into the entries of the
  string sets and the operations (`junk`) and the entries of the reference, pattern, enum and schema
  indexes (`specLog`); a view of the log (a `filterMap`) reads one part or the other.
-/

namespace IndexProof
open J Analyzer Spec.Index Str

/-- the head of `schE q` (Index.lean) -/
def schemaEnt (q : Pos) : Ent := .schema (ptr q.1) (lastTok q.1) (isTopLevel q.1) q.2

def tagged (E : String → String → J → List Ent) (tbl : List (String × List Pos)) : List Ent :=
  tbl.flatMap fun tp => tp.2.flatMap fun q => E tp.1 (ptr q.1) q.2

def specLog (d : J) : List Ent :=
  (allSchemas d).map schemaEnt ++ tagged refEnt (refKinds d) ++ tagged patEnum (patCats d)

/-- the same emitters over the same positions, grouped by holder in `mid` and by index in `specLog` (method:
    ListLemmas.lean, `perm_of_count`) -/
theorem mid_perm_specLog (d : J) : (mid d).Perm (specLog d) := by
  refine List.perm_of_count fun a => ?_
  unfold mid specLog tagged defsE PA RA HA schE itE parRefE parPatE respE hdrE piE refKinds patCats
    allSchemas headerItems paramItems headers schemaEnt
  simp only [List.flatMap_cons, List.flatMap_nil, List.append_nil, if_true, List.nil_append, Bool.false_eq_true,
    if_false, List.flatMap_append, List.filter_append, List.map_append, ← List.flatMap_assoc,
    List.flatMap_ite_filter, List.count_flatMap_append, List.count_flatMap_cons, List.count_append,
    String.reduceAppend]
  omega

theorem analyze_perm_specLog (f : Facts)
    (hm : f.analyzerMethods.Perm (Doc.methods.map fun m => (Str.toUpperAscii m, m)))
    (hd : f.defaultHeaderEnums = true) (d : J) (h : WF' d) :
    (analyze f d).Perm (junk d ++ specLog d) :=
  (analyze_perm f hm hd d h).trans (List.Perm.append_left _ (mid_perm_specLog d))

def isSetEnt : Ent → Bool
  | .consumes _ | .produces _ | .auth _ => true
  | _ => false

def isJunk : Ent → Bool
  | .op .. | .consumes _ | .produces _ | .auth _ => true
  | _ => false

theorem isJunk_of_isSetEnt {e : Ent} (h : isSetEnt e = true) : isJunk e = true := by
  cases e <;> first | rfl | cases h

/-- `Spec.Index.secNames` again, for the statement of `C14.required_security_union` -/
def authNames (n : J) : List String :=
  (n.getArr "security").flatMap fun req => match req with | .obj kvs => kvs.map (·.1) | _ => []

def setsOf (n : J) : List Ent :=
  (n.getStrs "consumes").map Ent.consumes ++ (n.getStrs "produces").map Ent.produces ++
  (authNames n).map Ent.auth

theorem junk_eq (d : J) :
    junk d = setsOf d ++ (operations d).flatMap fun o => setsOf o.2.2.2 ++ [Ent.op o.1 o.2.1 o.2.2.2] := by
  have hauth : ∀ n : J, ((n.getArr "security").flatMap fun req =>
      match req with | .obj kvs => kvs.map fun kv => Ent.auth kv.1 | _ => []) = (authNames n).map Ent.auth := by
    intro n
    rw [authNames, List.map_flatMap]
    refine List.flatMap_congr' fun req _ => ?_
    cases req <;> simp
  simp only [setsOf, ← hauth]
  rfl

theorem mem_setsOf {n : J} {e : Ent} (h : e ∈ setsOf n) : isSetEnt e = true := by
  simp only [setsOf, List.mem_append, List.mem_map] at h
  rcases h with (⟨s, _, rfl⟩ | ⟨s, _, rfl⟩) | ⟨s, _, rfl⟩ <;> rfl

theorem junk_all (d : J) : ∀ e ∈ junk d, isJunk e = true := by
  intro e he
  rw [junk_eq, List.mem_append, List.mem_flatMap] at he
  rcases he with he | ⟨o, _, he⟩
  · exact isJunk_of_isSetEnt (mem_setsOf he)
  · rcases List.mem_append.1 he with he | he
    · exact isJunk_of_isSetEnt (mem_setsOf he)
    · rw [List.mem_singleton.1 he]; rfl

theorem mem_refEnt {kind k : String} {n : J} {e : Ent} (h : e ∈ refEnt kind k n) :
    e = .ref kind k (Doc.refStr n) := by
  unfold refEnt at h
  split at h
  · exact List.mem_singleton.1 h
  · cases h

theorem mem_patEnum {cat k : String} {n : J} {e : Ent} (h : e ∈ patEnum cat k n) :
    (∃ v, e = .pattern cat k v) ∨ (∃ v, e = .enum cat k v) := by
  unfold patEnum at h
  rcases List.mem_append.1 h with h | h
  · split at h
    · exact Or.inl ⟨_, List.mem_singleton.1 h⟩
    · cases h
  · split at h
    · exact Or.inr ⟨_, List.mem_singleton.1 h⟩
    · cases h

theorem specLog_all (d : J) : ∀ e ∈ specLog d, isSetEnt e = false := by
  intro e he
  simp only [specLog, tagged, List.mem_append, List.mem_map, List.mem_flatMap] at he
  rcases he with (⟨q, _, rfl⟩ | ⟨tp, _, q, _, he⟩) | ⟨tp, _, q, _, he⟩
  · rfl
  · rw [mem_refEnt he]; rfl
  · rcases mem_patEnum he with ⟨v, rfl⟩ | ⟨v, rfl⟩ <;> rfl

/-! The views below read a log `l` that is `junk d ++ specLog d` up to order: `analyze f d` by `analyze_perm_specLog`. -/

theorem filterMap_split {β} {l : List Ent} {d : J} (hl : l.Perm (junk d ++ specLog d)) (g : Ent → Option β) :
    (l.filterMap g).Perm ((junk d).filterMap g ++ (specLog d).filterMap g) := by
  rw [← List.filterMap_append]
  exact hl.filterMap g

/-- `hg` is settled by cases on the entry: `rfl` on the junk constructors, `isJunk e = true` absurd on the others -/
theorem view_perm {β} {l : List Ent} {d : J} (hl : l.Perm (junk d ++ specLog d)) (g : Ent → Option β)
    (hg : ∀ e, isJunk e = true → g e = none) : (l.filterMap g).Perm ((specLog d).filterMap g) := by
  have := filterMap_split hl g
  rwa [List.filterMap_eq_nil_iff.2 fun e he => hg e (junk_all d e he), List.nil_append] at this

theorem setView_perm {β} {l : List Ent} {d : J} (hl : l.Perm (junk d ++ specLog d)) (g : Ent → Option β)
    (hg : ∀ e, isSetEnt e = false → g e = none) : (l.filterMap g).Perm ((junk d).filterMap g) := by
  have := filterMap_split hl g
  rwa [List.filterMap_eq_nil_iff.2 fun e he => hg e (specLog_all d e he), List.append_nil] at this

/-! C14: the required media types and security schemes the analyzer reports are the unions over the document and its
    operations: `junk` holds exactly those entries (and the operations). -/

def selConsumes : Ent → Option String | .consumes s => some s | _ => none
def selProduces : Ent → Option String | .produces s => some s | _ => none
def selAuth : Ent → Option String | .auth s => some s | _ => none

theorem junk_filterMap {β} (g : Ent → Option β) (hop : ∀ m p n, g (.op m p n) = none) (d : J) :
    (junk d).filterMap g =
      (setsOf d).filterMap g ++ (operations d).flatMap fun o => (setsOf o.2.2.2).filterMap g := by
  rw [junk_eq, List.filterMap_append, List.filterMap_flatMap]
  congr 1
  refine List.flatMap_congr' fun o _ => ?_
  rw [List.filterMap_append, List.filterMap_cons, hop, List.filterMap_nil, List.append_nil]

theorem setsOf_consumes (n : J) : (setsOf n).filterMap selConsumes = n.getStrs "consumes" := by
  simp [setsOf, List.filterMap_map, Function.comp_def, selConsumes]

theorem setsOf_produces (n : J) : (setsOf n).filterMap selProduces = n.getStrs "produces" := by
  simp [setsOf, List.filterMap_map, Function.comp_def, selProduces]

theorem setsOf_auth (n : J) : (setsOf n).filterMap selAuth = authNames n := by
  simp [setsOf, List.filterMap_map, Function.comp_def, selAuth]

end IndexProof
