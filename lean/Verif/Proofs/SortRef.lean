import Verif.Model.SortRef
import Verif.Proofs.ListLemmas

/-!
  Lemmas on the model of `sortref` (Verif/Model/SortRef.lean): `keyLe` and `topLe` are total orders, so sorting with
  them forgets the order of the input; the groups of `DepthFirst` partition the keys that have a group.
-/

namespace Proofs.SortRef
open _root_.SortRef

theorem keyLe_iff (a b : String) :
    keyLe a b = true ↔
      (keyParts a).length > (keyParts b).length ∨ ((keyParts a).length = (keyParts b).length ∧ a ≤ b) := by
  simp [keyLe]

theorem topLe_iff (a b : String) :
    topLe a b = true ↔ slashCount a < slashCount b ∨ (slashCount a = slashCount b ∧ a ≤ b) := by
  simp [topLe]

/-- `keyLe` and `topLe` have one shape: compare a numeric rank first (negated for "longer first"), then
    the strings.  Any such comparison is a total order, so sorting with it forgets the input order. -/
def RankLe (le : String → String → Bool) (r : String → Int) : Prop :=
  ∀ a b, le a b = true ↔ r a < r b ∨ (r a = r b ∧ a ≤ b)

theorem RankLe.trans {le : String → String → Bool} {r : String → Int} (hle : RankLe le r) (a b c : String)
    (h1 : le a b = true) (h2 : le b c = true) : le a c = true := by
  rw [hle] at *
  rcases h1 with h1 | ⟨e1, h1⟩ <;> rcases h2 with h2 | ⟨e2, h2⟩
  · exact .inl (Int.lt_trans h1 h2)
  · exact .inl (e2 ▸ h1)
  · exact .inl (e1 ▸ h2)
  · exact .inr ⟨e1.trans e2, String.le_trans h1 h2⟩

theorem RankLe.total {le : String → String → Bool} {r : String → Int} (hle : RankLe le r) (a b : String) :
    (le a b || le b a) = true := by
  rw [Bool.or_eq_true, hle, hle]
  rcases Int.lt_trichotomy (r a) (r b) with h | h | h
  · exact .inl (.inl h)
  · exact (String.le_total a b).imp (fun h' => .inr ⟨h, h'⟩) (fun h' => .inr ⟨h.symm, h'⟩)
  · exact .inr (.inl h)

theorem RankLe.antisymm {le : String → String → Bool} {r : String → Int} (hle : RankLe le r) (a b : String)
    (h1 : le a b = true) (h2 : le b a = true) : a = b := by
  rw [hle] at h1 h2
  rcases h1 with h1 | ⟨_, h1⟩ <;> rcases h2 with h2 | ⟨_, h2⟩ <;> try omega
  exact String.le_antisymm h1 h2

theorem keyLe_rank : RankLe keyLe fun s => -((keyParts s).length : Int) := by
  simp [RankLe, keyLe_iff, Int.natCast_inj]

theorem topLe_rank : RankLe topLe fun s => (slashCount s : Int) := by
  simp [RankLe, topLe_iff, Int.natCast_inj]

theorem keyLe_trans (a b c : String) (h1 : keyLe a b = true) (h2 : keyLe b c = true) : keyLe a c = true :=
  keyLe_rank.trans a b c h1 h2

theorem keyLe_total (a b : String) : (keyLe a b || keyLe b a) = true :=
  keyLe_rank.total a b

theorem keyLe_antisymm (a b : String) (h1 : keyLe a b = true) (h2 : keyLe b a = true) : a = b :=
  keyLe_rank.antisymm a b h1 h2

theorem topLe_trans (a b c : String) (h1 : topLe a b = true) (h2 : topLe b c = true) : topLe a c = true :=
  topLe_rank.trans a b c h1 h2

theorem topLe_total (a b : String) : (topLe a b || topLe b a) = true :=
  topLe_rank.total a b

theorem topLe_antisymm (a b : String) (h1 : topLe a b = true) (h2 : topLe b a = true) : a = b :=
  topLe_rank.antisymm a b h1 h2

theorem mergeSort_keyLe_perm {l l' : List String} (hp : l.Perm l') : l.mergeSort keyLe = l'.mergeSort keyLe :=
  List.mergeSort_eq_of_perm keyLe keyLe_trans keyLe_total keyLe_antisymm hp

theorem mergeSort_topLe_perm {l l' : List String} (hp : l.Perm l') : l.mergeSort topLe = l'.mergeSort topLe :=
  List.mergeSort_eq_of_perm topLe topLe_trans topLe_total topLe_antisymm hp

theorem depthFirst_eq_of_perm {ks ks' : List String} (hp : ks.Perm ks') : depthFirst ks = depthFirst ks' := by
  apply List.flatMap_congr'
  intro g _
  exact mergeSort_keyLe_perm (hp.filter _)

theorem depthFirst_perm_filter (ks : List String) :
    (depthFirst ks).Perm (ks.filter fun k => depthGroupOrder.contains (groupOf (keyParts k))) := by
  refine (List.flatMap_perm_congr _ fun g _ => List.mergeSort_perm _ _).trans ?_
  exact List.flatMap_filter_label_perm (fun k => groupOf (keyParts k)) ks depthGroupOrder (by decide)

end Proofs.SortRef
