import Verif.Proofs.MixinBase

/-!
  `mergeSwaggerProps` and its parts: what one level of the merge does (`Lvl`: extensions merged
  first-wins, empty strings filled), the three-way merge of a nil-able sub-object (`optMerge`), and
  a level followed by two such sub-objects (`lvl2`), of which `mergeInfo` and, when it does not
  panic, `mergeSwaggerProps` are instances.
-/

namespace Proofs.Mixin
open J Spec.Mixin

/-- `C17.objOrAbsent` again: Properties/C17.lean imports this file -/
def optObj : Option J → Bool
  | none => true
  | some j => j.isObj

def kvsO : Option J → List (String × J)
  | some (.obj kvs) => kvs
  | _ => []

def keysO (o : Option J) : List String := (kvsO o).map (·.1)

def getStrO (k : String) : Option J → String
  | some j => j.getStr k
  | none => ""

theorem extKeysOf_eq_filter_keysO (o : Option J) : extKeysOf o = (keysO o).filter isExtKey := by
  unfold extKeysOf keysO kvsO
  split <;> simp_all

theorem extKeysOf_eq_map_filter (o : Option J) :
    extKeysOf o = ((kvsO o).filter fun kv => isExtKey kv.1).map (·.1) := by
  rw [extKeysOf_eq_filter_keysO, keysO, List.filter_map, Function.comp_def]

theorem mem_keysO_some (j : J) (k : String) : k ∈ keysO (some j) ↔ (j.get? k).isSome = true := by
  unfold keysO kvsO
  cases j <;> simp [get?, lookup_isSome_iff]

theorem mergeExt_obj (pk : List (String × J)) (m : J) :
    Mixin.mergeExt (.obj pk) m =
      (.obj (fw isExtKey pk (kvsO (some m))).1, (fw isExtKey pk (kvsO (some m))).2.map fun k => ("extension", k)) := by
  cases m with
  | obj mk =>
    have := fw_fold isExtKey "extension" pk mk []
    exact congrArg (fun r => (J.obj r.1, r.2)) this
  | _ => rfl

theorem mergeExt_notObj (p m : J) (h : p.isObj = false) : Mixin.mergeExt p m = (p, []) := by
  cases p <;> simp_all [Mixin.mergeExt, isObj]

theorem mergeExt_isObj (p m : J) : (Mixin.mergeExt p m).1.isObj = p.isObj := by
  cases p <;> first | rfl | (rw [mergeExt_obj]; rfl)

theorem mergeExt_get? (p m : J) (k : String) (hk : isExtKey k = false) :
    (Mixin.mergeExt p m).1.get? k = p.get? k := by
  cases p with
  | obj pk =>
    rw [mergeExt_obj]
    simp only [get?]
    rw [fw_lookup, lookup_filter_neg _ _ _ hk]
    simp
  | _ => rfl

theorem mergeExt_ext (p m : J) (hp : p.isObj = true) (k : String) :
    ((Mixin.mergeExt p m).1.get? k).isSome = true ↔
      (p.get? k).isSome = true ∨ k ∈ extKeysOf (some m) := by
  obtain ⟨pk, rfl⟩ := (isObj_iff p).1 hp
  rw [mergeExt_obj, extKeysOf_eq_map_filter]
  exact fw_isSome _ _ _ _

theorem mergeExt_warns (p m : J) (hp : p.isObj = true) (hnd : (extKeysOf (some m)).Nodup) :
    (Mixin.mergeExt p m).2.length =
      ((extKeysOf (some m)).filter fun k => (p.get? k).isSome).length := by
  obtain ⟨pk, rfl⟩ := (isObj_iff p).1 hp
  rw [extKeysOf_eq_map_filter] at hnd ⊢
  rw [mergeExt_obj]
  simp only [List.length_map, get?]
  rw [fw_warns _ _ _ hnd]

theorem fillStr_isObj (k : String) (p m : J) : (Mixin.fillStr k p m).isObj = p.isObj := by
  unfold Mixin.fillStr; split
  · exact isObj_set _ _ _
  · rfl

theorem fillStr_get?_ne (k k₂ : String) (p m : J) (h : k₂ ≠ k) :
    (Mixin.fillStr k p m).get? k₂ = p.get? k₂ := by
  unfold Mixin.fillStr; split
  · exact get?_set_ne _ _ _ _ h
  · rfl

theorem fillStr_getStr_self (k : String) (p m : J) (hp : p.isObj = true) :
    (Mixin.fillStr k p m).getStr k = if p.getStr k = "" then m.getStr k else p.getStr k := by
  unfold Mixin.fillStr
  by_cases h1 : p.getStr k = ""
  · by_cases h2 : m.getStr k = ""
    · simp [h1, h2]
    · simp [h1, h2, getStr_set_self _ _ _ hp]
  · simp [h1]

theorem fillStrs_isObj (ks : List String) (p m : J) : (Mixin.fillStrs ks p m).isObj = p.isObj := by
  unfold Mixin.fillStrs
  induction ks generalizing p with
  | nil => rfl
  | cons k ks ih => simp only [List.foldl_cons]; rw [ih, fillStr_isObj]

theorem fillStrs_get?_notMem (ks : List String) (k₂ : String) (p m : J) (h : k₂ ∉ ks) :
    (Mixin.fillStrs ks p m).get? k₂ = p.get? k₂ := by
  unfold Mixin.fillStrs
  induction ks generalizing p with
  | nil => rfl
  | cons k ks ih =>
    simp only [List.foldl_cons]
    simp only [List.mem_cons, not_or] at h
    rw [ih _ h.2, fillStr_get?_ne _ _ _ _ h.1]

theorem fillStrs_getStr (ks : List String) (k : String) (p m : J) (hp : p.isObj = true)
    (hnd : ks.Nodup) (hk : k ∈ ks) :
    (Mixin.fillStrs ks p m).getStr k = if p.getStr k = "" then m.getStr k else p.getStr k := by
  induction ks generalizing p with
  | nil => simp at hk
  | cons k' ks ih =>
    have e : Mixin.fillStrs (k' :: ks) p m = Mixin.fillStrs ks (Mixin.fillStr k' p m) m := by
      simp [Mixin.fillStrs]
    rw [e]
    simp only [List.nodup_cons] at hnd
    by_cases hkk : k = k'
    · subst hkk
      rw [getStr_congr _ _ _ (fillStrs_get?_notMem ks k _ m hnd.1), fillStr_getStr_self _ _ _ hp]
    · have hk' : k ∈ ks := by simpa [hkk] using hk
      rw [ih _ (by rw [fillStr_isObj]; exact hp) hnd.2 hk']
      rw [getStr_congr _ _ _ (fillStr_get?_ne k' k p m hkk)]

/-- what the four levels (document, `info`, `info.contact`, `info.license`) have in common -/
def extFill (fields : List String) (p m : J) : J := Mixin.fillStrs fields (Mixin.mergeExt p m).1 m

def PlainKeys (fields : List String) : Prop := ∀ k ∈ fields, isExtKey k = false

/-- for lists of literals: `by decide` evaluates first characters only -/
theorem plainKeys_of_front {fields : List String} (h : ∀ k ∈ fields, k.front ≠ 'x' ∧ k.front ≠ 'X') :
    PlainKeys fields := fun k hk => isExtKey_eq_false_of_front (h k hk)

theorem extFill_isObj (fields : List String) (p m : J) : (extFill fields p m).isObj = p.isObj := by
  unfold extFill; rw [fillStrs_isObj, mergeExt_isObj]

theorem extFill_get? (fields : List String) (p m : J) (k : String) (hk : isExtKey k = false)
    (hf : k ∉ fields) : (extFill fields p m).get? k = p.get? k := by
  unfold extFill; rw [fillStrs_get?_notMem _ _ _ _ hf, mergeExt_get? _ _ _ hk]

theorem extFill_ext (fields : List String) (hpl : PlainKeys fields) (p m : J) (hp : p.isObj = true)
    (k : String) (hk : isExtKey k = true) :
    ((extFill fields p m).get? k).isSome = true ↔ (p.get? k).isSome = true ∨ k ∈ extKeysOf (some m) := by
  unfold extFill
  rw [fillStrs_get?_notMem _ _ _ _ (fun hm => by rw [hpl k hm] at hk; cases hk), mergeExt_ext _ _ hp]

theorem extFill_getStr (fields : List String) (hpl : PlainKeys fields) (hnd : fields.Nodup)
    (p m : J) (hp : p.isObj = true) (k : String) (hk : k ∈ fields) :
    (extFill fields p m).getStr k = if p.getStr k = "" then m.getStr k else p.getStr k := by
  unfold extFill
  rw [fillStrs_getStr _ _ _ _ (by rw [mergeExt_isObj]; exact hp) hnd hk,
    getStr_congr _ _ _ (mergeExt_get? p m k (hpl k hk))]

/-- one level of the merge: `po` is the accumulated (optional) object, `mo` the mixin's, `po'` the
    result and `w` the reports -/
structure Lvl (fields : List String) (po mo po' : Option J) (w : List Mixin.Warn) : Prop where
  obj : optObj po = true → optObj mo = true → optObj po' = true
  ext : optObj po = true → ∀ k, isExtKey k = true → (k ∈ keysO po' ↔ k ∈ keysO po ∨ k ∈ extKeysOf mo)
  warns : optObj po = true → (extKeysOf mo).Nodup →
    w.length = ((extKeysOf mo).filter (keysO po).contains).length
  strs : optObj po = true → ∀ k ∈ fields,
    getStrO k po' = if getStrO k po = "" then getStrO k mo else getStrO k po

theorem extKeysOf_none : extKeysOf none = [] := rfl

theorem mem_extKeysOf (o : Option J) (k : String) : k ∈ extKeysOf o ↔ k ∈ keysO o ∧ isExtKey k = true := by
  rw [extKeysOf_eq_filter_keysO]; simp

theorem lvl_take (fields : List String) (mo : Option J) : Lvl fields none mo mo [] where
  obj := fun _ h => h
  ext := by intro _ k hk; rw [mem_extKeysOf]; simp [keysO, kvsO, hk]
  warns := by
    intro _ _
    have e : ([] : List String).contains = fun _ => false := by funext k; simp
    simp [keysO, kvsO, e, List.filter_eq_nil_iff.2]
  strs := by intro _ k _; simp [getStrO]

theorem lvl_keep (fields : List String) (po : Option J) : Lvl fields po none po [] where
  obj := fun h _ => h
  ext := by intro _ k _; simp [extKeysOf_none]
  warns := by intro _ _; simp [extKeysOf_none]
  strs := by
    intro _ k _
    cases po with
    | none => simp [getStrO]
    | some v => by_cases h : v.getStr k = "" <;> simp [getStrO, h]

/-- `X` need agree with `extFill fields p m` on extension keys and `fields` only: `lvl2` rewrites two
    other keys -/
theorem lvl_some (fields : List String) (hpl : PlainKeys fields) (hnd : fields.Nodup)
    (p m X : J) (hobj : X.isObj = p.isObj)
    (hget : ∀ k, (isExtKey k = true ∨ k ∈ fields) → X.get? k = (extFill fields p m).get? k) :
    Lvl fields (some p) (some m) (some X) (Mixin.mergeExt p m).2 where
  obj := fun h _ => hobj.trans h
  ext := by
    intro h k hk
    rw [mem_keysO_some, mem_keysO_some, hget k (Or.inl hk), extFill_ext fields hpl p m h k hk]
  warns := by
    intro h hnd'
    rw [mergeExt_warns p m h hnd']
    congr 1
    apply List.filter_congr
    intro k _
    rw [Bool.eq_iff_iff, List.contains_iff_mem, mem_keysO_some]
  strs := by
    intro h k hk
    simp only [getStrO]
    rw [getStr_congr _ _ _ (hget k (Or.inr hk)), extFill_getStr fields hpl hnd p m h k hk]
    rfl

/-- the shape `mergePart` and the `info` and `externalDocs` steps of `mergeSwaggerProps` share -/
def optMerge (inner : J → J → J × List Mixin.Warn) (k : String) (p m : J) : J × List Mixin.Warn :=
  match p.get? k, m.get? k with
  | none, some mv => (p.set k mv, [])
  | some pv, some mv => (p.set k (inner pv mv).1, (inner pv mv).2)
  | _, none => (p, [])

section optMerge
variable (inner : J → J → J × List Mixin.Warn) (k : String) (p m : J)

theorem optMerge_isObj : (optMerge inner k p m).1.isObj = p.isObj := by
  unfold optMerge; split <;> simp [isObj_set]

theorem optMerge_get?_ne (k₂ : String) (h : k₂ ≠ k) : (optMerge inner k p m).1.get? k₂ = p.get? k₂ := by
  unfold optMerge; split <;> simp [get?_set_ne _ _ _ _ h]

/-- `R`: `Lvl fields`, `InfoLvls` or `FillLvl fields`, with the arguments of `Lvl` -/
theorem optMerge_cases {R : Option J → Option J → Option J → List Mixin.Warn → Prop} (hp : p.isObj = true)
    (take : ∀ mo, R none mo mo []) (keep : ∀ po, R po none po [])
    (both : ∀ pv mv, R (some pv) (some mv) (some (inner pv mv).1) (inner pv mv).2) :
    R (p.get? k) (m.get? k) ((optMerge inner k p m).1.get? k) (optMerge inner k p m).2 := by
  fun_cases optMerge inner k p m with
  | case1 mv hm hp' => rw [hp', hm, get?_set_self _ _ _ hp]; exact take _
  | case2 pv mv hp' hm => rw [hp', hm, get?_set_self _ _ _ hp]; exact both _ _
  | case3 hm => rw [hm]; exact keep _

end optMerge

def lvl1 (fields : List String) (p m : J) : J × List Mixin.Warn := (extFill fields p m, (Mixin.mergeExt p m).2)

theorem mergePart_eq (k : String) (fields : List String) (p m : J) :
    Mixin.mergePart k fields p m = optMerge (lvl1 fields) k p m := by
  unfold Mixin.mergePart optMerge lvl1 extFill; cases p.get? k <;> cases m.get? k <;> rfl

theorem lvl1_lvl (fields : List String) (hpl : PlainKeys fields) (hnd : fields.Nodup) (p m : J) :
    Lvl fields (some p) (some m) (some (lvl1 fields p m).1) (lvl1 fields p m).2 :=
  lvl_some fields hpl hnd p m _ (extFill_isObj _ _ _) fun _ _ => rfl

def lvl2 (fields : List String) (a : String) (ia : J → J → J × List Mixin.Warn)
    (b : String) (ib : J → J → J × List Mixin.Warn) (p m : J) : J × List Mixin.Warn :=
  ((optMerge ib b (optMerge ia a (extFill fields p m) m).1 m).1,
   (Mixin.mergeExt p m).2 ++ (optMerge ia a (extFill fields p m) m).2 ++
     (optMerge ib b (optMerge ia a (extFill fields p m) m).1 m).2)

section lvl2
variable (fields : List String) (a : String) (ia : J → J → J × List Mixin.Warn)
  (b : String) (ib : J → J → J × List Mixin.Warn) (p m : J)

theorem lvl2_isObj : (lvl2 fields a ia b ib p m).1.isObj = p.isObj := by
  simp only [lvl2, optMerge_isObj, extFill_isObj]

theorem lvl2_get? (k : String) (ha : k ≠ a) (hb : k ≠ b) :
    (lvl2 fields a ia b ib p m).1.get? k = (extFill fields p m).get? k := by
  simp only [lvl2]; rw [optMerge_get?_ne _ _ _ _ _ hb, optMerge_get?_ne _ _ _ _ _ ha]

variable (hpl : PlainKeys (a :: b :: fields)) (hnd : (a :: b :: fields).Nodup)
include hpl hnd

theorem lvl2_lvl : Lvl fields (some p) (some m) (some (lvl2 fields a ia b ib p m).1) (Mixin.mergeExt p m).2 := by
  have hab : ∀ k, (isExtKey k = true ∨ k ∈ fields) → k ≠ a ∧ k ≠ b := by
    rintro k (hk | hk)
    · constructor <;> rintro rfl <;> rw [hpl k (by simp)] at hk <;> cases hk
    · simp only [List.nodup_cons, List.mem_cons, not_or] at hnd
      exact ⟨fun e => hnd.1.2 (e ▸ hk), fun e => hnd.2.1 (e ▸ hk)⟩
  exact lvl_some fields (fun k hk => hpl k (by simp [hk])) (List.nodup_cons.1 (List.nodup_cons.1 hnd).2).2 p m _
    (lvl2_isObj ..) fun k hk => lvl2_get? _ _ _ _ _ _ _ k (hab k hk).1 (hab k hk).2

variable {R : Option J → Option J → Option J → List Mixin.Warn → Prop} (hp : p.isObj = true)
  (take : ∀ mo, R none mo mo []) (keep : ∀ po, R po none po [])
include hp take keep

/-- `optMerge_cases` for the first sub-object, read off the result -/
theorem lvl2_fst (both : ∀ pv mv, R (some pv) (some mv) (some (ia pv mv).1) (ia pv mv).2) :
    R (p.get? a) (m.get? a) ((lvl2 fields a ia b ib p m).1.get? a)
      (optMerge ia a (extFill fields p m) m).2 := by
  simp only [List.nodup_cons, List.mem_cons, not_or] at hnd
  have := optMerge_cases ia a (extFill fields p m) m (by rw [extFill_isObj]; exact hp) take keep both
  rw [extFill_get? _ _ _ _ (hpl a (by simp)) hnd.1.2] at this
  simp only [lvl2]
  rw [optMerge_get?_ne _ _ _ _ _ hnd.1.1]
  exact this

theorem lvl2_snd (both : ∀ pv mv, R (some pv) (some mv) (some (ib pv mv).1) (ib pv mv).2) :
    R (p.get? b) (m.get? b) ((lvl2 fields a ia b ib p m).1.get? b)
      (optMerge ib b (optMerge ia a (extFill fields p m) m).1 m).2 := by
  simp only [List.nodup_cons, List.mem_cons, not_or] at hnd
  have := optMerge_cases ib b (optMerge ia a (extFill fields p m) m).1 m
    (by rw [optMerge_isObj, extFill_isObj]; exact hp) take keep both
  rw [optMerge_get?_ne _ _ _ _ _ (Ne.symm hnd.1.1), extFill_get? _ _ _ _ (hpl b (by simp)) hnd.2.1] at this
  exact this

end lvl2

def infoFields : List String := ["description", "title", "termsOfService", "version"]
def contactFields : List String := ["name", "url", "email"]
def licenseFields : List String := ["name", "url"]
def topFields : List String := ["host", "basePath"]
def docsFields : List String := ["description", "url"]

theorem mergeInfo_eq (p m : J) :
    Mixin.mergeInfo p m = lvl2 infoFields "contact" (lvl1 contactFields) "license" (lvl1 licenseFields) p m := by
  unfold Mixin.mergeInfo
  simp only [mergePart_eq]
  rfl

theorem sub_some (k : String) (j : J) : sub k (some j) = j.get? k := rfl
theorem sub_none (k : String) : sub k none = none := rfl

/-- the levels `info`, `info.contact`, `info.license`, seen from the (optional) `info` objects -/
def InfoLvls (po mo po' : Option J) (w : List Mixin.Warn) : Prop :=
  ∃ wi wc wl, w = wi ++ wc ++ wl ∧ Lvl infoFields po mo po' wi ∧
    (optObj po = true →
      Lvl contactFields (sub "contact" po) (sub "contact" mo) (sub "contact" po') wc ∧
      Lvl licenseFields (sub "license" po) (sub "license" mo) (sub "license" po') wl)

theorem infoLvls_take (mo : Option J) : InfoLvls none mo mo [] :=
  ⟨[], [], [], rfl, lvl_take _ _, fun _ => ⟨lvl_take _ _, lvl_take _ _⟩⟩

theorem infoLvls_keep (po : Option J) : InfoLvls po none po [] :=
  ⟨[], [], [], rfl, lvl_keep _ _, fun _ => ⟨lvl_keep _ _, lvl_keep _ _⟩⟩

theorem mergeInfo_lvls (p m : J) : InfoLvls (some p) (some m) (some (Mixin.mergeInfo p m).1) (Mixin.mergeInfo p m).2 := by
  have hpl : PlainKeys ("contact" :: "license" :: infoFields) := plainKeys_of_front (by decide)
  have hnd : ("contact" :: "license" :: infoFields).Nodup := by decide
  rw [mergeInfo_eq]
  refine ⟨_, _, _, Eq.refl (lvl2 ..).2, lvl2_lvl _ _ _ _ _ p m hpl hnd, fun hp => ?_⟩
  -- stated with `get?`, as `lvl2_fst` has it: unifying `sub k (some p)` with `p.get? k` is slow
  simp only [sub_some]
  exact ⟨lvl2_fst (R := Lvl contactFields) _ _ _ _ _ p m hpl hnd hp (lvl_take _) (lvl_keep _)
      (lvl1_lvl _ (plainKeys_of_front (by decide)) (by decide)),
    lvl2_snd (R := Lvl licenseFields) _ _ _ _ _ p m hpl hnd hp (lvl_take _) (lvl_keep _)
      (lvl1_lvl _ (plainKeys_of_front (by decide)) (by decide))⟩

/-- `mergeExternalDocs` on two non-nil values: strings filled, nothing reported -/
def docsMerge (pd md : J) : J × List Mixin.Warn := (Mixin.fillStrs docsFields pd md, [])

/-- `mergeSwaggerProps` when it does not panic -/
def topLvl (p m : J) : J × List Mixin.Warn :=
  lvl2 topFields "info" Mixin.mergeInfo "externalDocs" docsMerge p m

/-- only the `externalDocs` step can panic -/
theorem mergeSwaggerProps_eq (f : Facts) (p m : J) :
    Mixin.mergeSwaggerProps f p m =
      match optMerge Mixin.mergeInfo "info" (extFill topFields p m) m with
      | (p3, w3) =>
        match p3.get? "externalDocs", m.get? "externalDocs" with
        | none, some md => some (p3.set "externalDocs" md, (Mixin.mergeExt p m).2 ++ w3)
        | none, none => some (p3, (Mixin.mergeExt p m).2 ++ w3)
        | some pd, some md =>
          some (p3.set "externalDocs" (Mixin.fillStrs docsFields pd md), (Mixin.mergeExt p m).2 ++ w3)
        | some _, none => if f.mixinExtDocsGuard then some (p3, (Mixin.mergeExt p m).2 ++ w3) else none := by
  unfold Mixin.mergeSwaggerProps extFill optMerge topFields docsFields
  generalize Mixin.mergeExt p m = x
  obtain ⟨p1, w1⟩ := x
  -- both sides in projection form: `rfl` is slow on the nested pattern matches
  dsimp only
  rfl

theorem mergeSwaggerProps_some (f : Facts) (p m : J) (r : J × List Mixin.Warn)
    (h : Mixin.mergeSwaggerProps f p m = some r) : r = topLvl p m := by
  rw [mergeSwaggerProps_eq] at h
  simp only [topLvl, lvl2]
  generalize optMerge _ "info" (extFill topFields p m) m = q at h ⊢
  unfold optMerge docsMerge
  -- on `some, none` both keep the document, unless the model has panicked, which `h` excludes
  cases h1 : q.1.get? "externalDocs" <;> cases h2 : m.get? "externalDocs" <;> simp only [h1, h2] at h ⊢ <;>
    (try split at h) <;> simp_all

theorem mergeSwaggerProps_isSome (f : Facts) (hg : f.mixinExtDocsGuard = true) (p m : J) :
    (Mixin.mergeSwaggerProps f p m).isSome = true := by
  rw [mergeSwaggerProps_eq]; simp only [hg, if_true]; split <;> rfl

/-- what the later files use of `mergeSwaggerProps` -/
structure PropsFacts (p m p' : J) (w : List Mixin.Warn) : Prop where
  isObj : p'.isObj = true
  frame : ∀ k, isExtKey k = false → k ∉ ["host", "basePath", "info", "externalDocs"] → p'.get? k = p.get? k
  lvls : ∃ w0 wi wc wl, w = w0 ++ wi ++ wc ++ wl ∧
    Lvl topFields (some p) (some m) (some p') w0 ∧
    Lvl infoFields (info p) (info m) (info p') wi ∧
    (optObj (info p) = true →
      Lvl contactFields (sub "contact" (info p)) (sub "contact" (info m)) (sub "contact" (info p')) wc ∧
      Lvl licenseFields (sub "license" (info p)) (sub "license" (info m)) (sub "license" (info p')) wl)
  docsObj : optObj (p.get? "externalDocs") = true → optObj (m.get? "externalDocs") = true →
    optObj (p'.get? "externalDocs") = true
  docsStrs : optObj (p.get? "externalDocs") = true → ∀ k ∈ docsFields,
    getStrO k (p'.get? "externalDocs") =
      if getStrO k (p.get? "externalDocs") = "" then getStrO k (m.get? "externalDocs")
      else getStrO k (p.get? "externalDocs")

/-- what is kept of `Lvl` when extensions are not merged, as for `externalDocs`; the unused argument
    gives it the type of `R` in `lvl2_snd` -/
def FillLvl (fields : List String) (po mo po' : Option J) (_ : List Mixin.Warn) : Prop :=
  (optObj po = true → optObj mo = true → optObj po' = true) ∧
  (optObj po = true → ∀ k ∈ fields,
    getStrO k po' = if getStrO k po = "" then getStrO k mo else getStrO k po)

theorem Lvl.fill {fields : List String} {po mo po' : Option J} {w : List Mixin.Warn}
    (l : Lvl fields po mo po' w) : FillLvl fields po mo po' w := ⟨l.obj, l.strs⟩

theorem docsMerge_fill (pd md : J) :
    FillLvl docsFields (some pd) (some md) (some (docsMerge pd md).1) (docsMerge pd md).2 := by
  -- projections reduced first: the unifier would unfold `fillStrs` on the literal list of fields
  dsimp only [docsMerge]
  exact ⟨fun h _ => (fillStrs_isObj _ _ _).trans h,
    fun h k hk => fillStrs_getStr _ k pd md h (by simp [docsFields]) hk⟩

theorem topLvl_facts (p m : J) (hp : p.isObj = true) : PropsFacts p m (topLvl p m).1 (topLvl p m).2 := by
  have hpl : PlainKeys ("info" :: "externalDocs" :: topFields) := plainKeys_of_front (by decide)
  have hnd : ("info" :: "externalDocs" :: topFields).Nodup := by simp [topFields]
  unfold topLvl
  obtain ⟨wi, wc, wl, e, l1, l2⟩ := lvl2_fst (R := InfoLvls) topFields "info" _ "externalDocs" docsMerge p m hpl hnd hp
    infoLvls_take infoLvls_keep mergeInfo_lvls
  have hd := lvl2_snd (R := FillLvl docsFields) topFields "info" Mixin.mergeInfo "externalDocs" docsMerge p m hpl hnd hp
    (fun _ => (lvl_take _ _).fill) (fun _ => (lvl_keep _ _).fill) docsMerge_fill
  refine ⟨(lvl2_isObj ..).trans hp, fun k hk hn => ?_, ?_, hd.1, hd.2⟩
  · simp only [List.mem_cons, List.not_mem_nil, or_false, not_or] at hn
    rw [lvl2_get? _ _ _ _ _ _ _ k hn.2.2.1 hn.2.2.2]
    exact extFill_get? _ _ _ _ hk (by simp [topFields, hn.1, hn.2.1])
  · have : ∀ q : J, (optMerge docsMerge "externalDocs" q m).2 = [] := fun q => by
      unfold optMerge; split <;> rfl
    exact ⟨_, wi, wc, wl, by simp only [lvl2, e, this, List.append_nil, List.append_assoc],
      lvl2_lvl _ _ _ _ _ p m hpl hnd, l1, l2⟩

theorem mergeSwaggerProps_facts (f : Facts) (p m p' : J) (w : List Mixin.Warn)
    (h : Mixin.mergeSwaggerProps f p m = some (p', w)) (hp : p.isObj = true) : PropsFacts p m p' w := by
  have := topLvl_facts p m hp
  rw [← mergeSwaggerProps_some f p m _ h] at this
  exact this

end Proofs.Mixin
