import Verif.Proofs.FlattenPipeline

/-!
  C08 on the phase model: on a document in normal form (`Flatten.isNF`, which the driver also evaluates on every
  output of the implementation) every phase does nothing.  More generally (`pipeline_idle`): where the rewriting
  phases have nothing to do, Flatten is its removal phases.
-/

namespace Proofs.FlattenNF
open J Flatten OutcomeM Proofs.FlattenBase Proofs.FlattenPipeline

theorem initial_inSync (fc : Facts) (d : J) : InSync fc (initial fc d) := reload_inSync fc _

theorem initial_newRefs (fc : Facts) (d : J) : (initial fc d).ctx.newRefs = [] := by
  unfold initial reload; rfl

theorem reload_eq_self (fc : Facts) (s : St) (h : InSync fc s) : reload fc s = s := by
  unfold reload
  rw [← show s.idx = _ from h]

theorem syncNewRefs_eq_self (s : St) (h : s.ctx.newRefs = []) : syncNewRefs s = s := by
  obtain ⟨doc, idx, ⟨nrs, res⟩⟩ := s
  subst h
  rfl

theorem normalizeRef_nf (fc : Facts) (x : Ext) (o : Opts) (s : St) (h : nfNormalize o s = true) :
    normalizeRef fc x o s = .ok s := by
  unfold normalizeRef
  have hf : (allRefs s.idx).filter (fun kv => Str.hasPrefix (o.basePath ++ "#/definitions") kv.2) = [] :=
    List.filter_eq_nil_iff.2 fun kv hkv => by simpa using List.all_eq_true.1 h kv hkv
  simp [hf, Bind.bind, Outcome.bind, Pure.pure]

theorem removeShared_nf (d : J) (h : nfShared d = true) : RemoveUnused.removeShared d = d := by
  have h := noShared_iff.2 h
  unfold RemoveUnused.removeShared
  rw [erase_of_get?_none _ _ h.1, erase_of_get?_none _ _ h.2]

theorem removeUnusedShared_nf (fc : Facts) (s : St) (hi : InSync fc s) (h : nfShared s.doc = true) :
    removeUnusedShared fc s = s := by
  unfold removeUnusedShared
  rw [removeShared_nf _ h]
  exact reload_eq_self fc s hi

theorem importReferencesLocal_nf (fc : Facts) (s : St) (hi : InSync fc s)
    (hc : s.ctx.newRefs = []) (h : nfLocal s = true) : importReferencesLocal fc s = .ok s := by
  unfold importReferencesLocal
  simp only [nfLocal] at h
  simp [h, hc, reload_eq_self fc s hi]

theorem nameInlinedSchemas_nf (fc : Facts) (x : Ext) (o : Opts) (s : St) (ops : List (String × OpRef))
    (hops : opRefsByRef x s.idx = .ok ops) (hi : s.idx = Analyzer.analyze fc s.doc) (hc : s.ctx.newRefs = [])
    (h : nfNaming fc x s = true) : nameInlinedSchemas fc x o s = .ok s := by
  unfold nfNaming at h
  rw [hops] at h
  unfold nameInlinedSchemas
  refine bind_eq_of_ok hops (bind_eq_of_ok (foldlM_idle _ s _ fun key hk => ?_) ?_)
  · have hidle := List.all_eq_true.1 h key hk
    revert hidle
    -- the loop body has the case tree of `nameStepIdle` (case4: `classify` fails; case3: it returns flags)
    fun_cases nameStepIdle fc x s.doc (schemaEntries s.idx) ops key with
    | case1 he => intro _; rw [he]; rfl
    | case2 e he node hcond => intro _; rw [he]; exact if_pos hcond
    | case4 e he node hcond hfl => intro hidle; cases hidle
    | case3 e he node hcond fl hfl =>
      intro hidle
      rw [he]
      refine (if_neg hcond).trans (bind_eq_of_ok hfl ?_)
      split
      · rename_i hcx
        -- a complex schema for which no name can be derived
        have hnames := (Bool.or_eq_true_iff.1 hidle).resolve_left (by simp [hcx])
        unfold nameSchema
        split at hnames
        · rename_i names hn
          refine bind_eq_of_ok hn (foldlM_idle _ s _ fun name hname => ?_)
          exact if_pos (of_decide_eq_true (List.all_eq_true.1 hnames name hname))
        · cases hnames
      · rfl
  · rw [reload_eq_self fc s hi, syncNewRefs_eq_self s hc]
    rfl

theorem depthFirst_nil : SortRef.depthFirst [] = [] := by
  simp [SortRef.depthFirst, SortRef.depthGroupOrder]

theorem namePointersPass_nf (fc : Facts) (x : Ext) (o : Opts) (s : St) (ops : List (String × OpRef))
    (hops : opRefsByRef x s.idx = .ok ops) (hi : InSync fc s) (hc : s.ctx.newRefs = [])
    (h : nfPointers x s = true) : namePointersPass fc x o s = .ok (s, false) := by
  unfold namePointersPass
  -- the planning loop plans nothing (`h`), so the loop over the plan runs over `[]`; `reload`/`syncNewRefs` do nothing
  refine bind_eq_of_ok (foldlM_idle _ [] _ ?_) (bind_eq_of_ok hops (bind_eq_of_ok (foldlM_idle _ ((s, []), false) _ ?_) ?_))
  · intro kv hk
    have hkv := List.all_eq_true.1 h kv hk
    simp only [Bool.and_eq_true, decide_eq_true_eq] at hkv
    rw [if_pos hkv.1]
    split
    · rename_i hn; rw [hn] at hkv; cases hkv.2
    · rename_i toks ht
      rw [ht] at hkv
      split
      · rfl
      · rename_i hg; simp [hg] at hkv
  · intro key hk
    rw [List.map_nil, depthFirst_nil] at hk
    cases hk
  · dsimp only
    rw [reload_eq_self fc s hi, syncNewRefs_eq_self s hc]
    rfl

theorem namePointers_nf (fc : Facts) (x : Ext) (o : Opts) (s : St) (ops : List (String × OpRef))
    (hops : opRefsByRef x s.idx = .ok ops) (hi : InSync fc s) (hc : s.ctx.newRefs = [])
    (h : nfPointers x s = true) : namePointers fc x o s = .ok s := by
  unfold namePointers
  rw [show 8 + (allRefs s.idx).length = (7 + (allRefs s.idx).length) + 1 by omega]
  unfold namePointersLoop
  rw [namePointersPass_nf fc x o s ops hops hi hc h]
  rfl

theorem stripOAIGen_nf (fc : Facts) (x : Ext) (s : St) (hi : InSync fc s)
    (hc : s.ctx.newRefs = []) : stripOAIGen fc x s = .ok (s, false) := by
  unfold stripOAIGen stripOrder stripPrepare stripInOrder
  obtain ⟨doc, idx, ⟨nrs, res⟩⟩ := s
  subst hc
  simp only [List.map_nil, List.mergeSort_nil, List.foldlM, Bind.bind, Outcome.bind, Pure.pure]
  rw [reload_eq_self fc _ hi]

theorem removeUnused_nf (fc : Facts) (x : Ext) (s : St) (hi : InSync fc s)
    (h : nfUnused fc x s.doc = true) : Flatten.removeUnused fc x s = .ok s := by
  unfold Flatten.removeUnused
  have hp : (RemoveUnused.singlePass fc { refName := refName x } s.doc).2 = false := by
    simpa [nfUnused] using h
  have h1 := (Proofs.RemoveUnused.singlePass_false fc { refName := refName x } s.doc hp).1
  simp only [RemoveUnused.removeUnused, hp, Bind.bind, Outcome.bind, Pure.pure, h1]
  simp [reload_eq_self fc s hi]

theorem reverseIndex_local (o : Opts) (schemas : List (String × String))
    (h : ∀ kv ∈ schemas, hasFragmentOnly kv.2 = true) :
    ∃ g, reverseIndex o schemas = .ok g ∧ ∀ p ∈ g, hasFragmentOnly p.2.ref = true := by
  unfold reverseIndex
  refine foldlM_ok (fun (acc : List (String × RevIdx)) => ∀ p ∈ acc, hasFragmentOnly p.2.ref = true) _ _ ?_ []
    (by intro p hp; cases hp)
  intro acc kv hkv hacc
  have hl := h kv hkv
  have hn : normPath o kv.2 = .ok (unescOrEmpty kv.2) := by
    unfold normPath
    simp [hl]
  rw [hn, ok_bind]
  split
  · refine ⟨_, rfl, ?_⟩
    intro p hp
    obtain ⟨q, hq, rfl⟩ := List.mem_map.1 hp
    split
    · exact hacc q hq
    · exact hacc q hq
  · refine ⟨_, rfl, ?_⟩
    intro p hp
    rcases List.mem_append.1 hp with h1 | h1
    · exact hacc p h1
    · simp at h1; subst h1; exact hl

theorem importExternalReferences_nf (fc : Facts) (x : Ext) (o : Opts) (s : St) (hc : s.ctx.newRefs = [])
    (h : nfLocal s = true) : importExternalReferences fc x o s = .ok (s, true) := by
  unfold importExternalReferences
  obtain ⟨g, hg, hgl⟩ := reverseIndex_local o _ (List.all_eq_true.1 h)
  have hm : maintainNewRefs x s = .ok s := by
    unfold maintainNewRefs
    rw [hc]
    rfl
  refine bind_eq_of_ok hg (bind_eq_of_ok (foldlM_idle _ (s, true) _ ?_) (bind_eq_of_ok hm rfl))
  · intro refStr _
    split
    · rfl
    · rename_i entry he
      obtain ⟨l1, l2, rfl, _⟩ := List.lookup_eq_some_iff.1 he
      rw [if_pos (hgl (refStr, entry) (by simp))]
      rfl

theorem importReferences_nf (fc : Facts) (x : Ext) (o : Opts) (fuel : Nat) (s : St)
    (hi : InSync fc s) (hc : s.ctx.newRefs = []) (h : nfLocal s = true) :
    importReferences fc x o (fuel + 1) s = .ok s := by
  unfold importReferences
  refine bind_eq_of_ok (importExternalReferences_nf fc x o s hc h) ?_
  dsimp only
  rw [reload_eq_self fc s hi]
  rfl

variable (fc : Facts) (x : Ext) (o : Opts) {imp : St → Outcome St}

/-- `d2`: the document once RemoveUnused has dropped the shared sections; `hops`: the external tables answer for the
    operations index; `fuel + 1`: the loop may look once -/
theorem pipeline_idle (fuel : Nat) {d d2 : J} (ops : List (String × OpRef))
    (hd2 : (if o.removeUnused then RemoveUnused.removeShared d else d) = d2)
    (hn : nfNormalize o (initial fc d) = true) (himp : imp (initial fc d2) = .ok (initial fc d2))
    (hops : opRefsByRef x (initial fc d2).idx = .ok ops)
    (hnm : o.minimal = true ∨ o.expand = true ∨ nfNaming fc x (initial fc d2) = true)
    (hp : nfPointers x (initial fc d2) = true) :
    pipeline imp fc x o (fuel + 1) (initial fc d) =
      if o.removeUnused then Flatten.removeUnused fc x (initial fc d2) else .ok (initial fc d2) := by
  have hi := initial_inSync fc d2
  have hc := initial_newRefs fc d2
  have hs2 : (if o.removeUnused = true then removeUnusedShared fc (initial fc d) else initial fc d) = initial fc d2 := by
    subst hd2
    unfold removeUnusedShared initial reload
    split <;> rfl
  have hs4 : (if (!o.minimal && !o.expand) = true then nameInlinedSchemas fc x o (initial fc d2)
      else pure (initial fc d2)) = .ok (initial fc d2) := by
    split
    · rename_i hfull
      simp only [Bool.and_eq_true, Bool.not_eq_true'] at hfull
      exact nameInlinedSchemas_nf fc x o _ ops hops hi hc (by simpa [hfull.1, hfull.2] using hnm)
    · rfl
  have hs5 : stripPointersAndOAIGen fc x o (fuel + 1) (initial fc d2) = .ok (initial fc d2) :=
    bind_eq_of_ok (namePointers_nf fc x o _ ops hops hi hc hp) (bind_eq_of_ok (stripOAIGen_nf fc x _ hi hc) rfl)
  exact bind_eq_of_ok (normalizeRef_nf fc x o _ hn)
    (bind_eq_of_ok (hs2 ▸ himp) (bind_eq_of_ok hs4 (bind_eq_of_ok hs5 rfl)))

/-- C08 on the model -/
theorem pipeline_nf
    (himp : ∀ s, InSync fc s → s.ctx.newRefs = [] → nfLocal s = true → imp s = .ok s)
    (fuel : Nat) (d : J) (ops : List (String × OpRef)) (hops : opRefsByRef x (initial fc d).idx = .ok ops)
    (h : isNF fc x o d = true) : pipeline imp fc x o (fuel + 1) (initial fc d) = .ok (initial fc d) := by
  simp only [isNF, Bool.and_eq_true, Bool.or_eq_true, Bool.not_eq_true'] at h
  obtain ⟨⟨⟨⟨hn, hl⟩, hnm⟩, hp⟩, hr⟩ := h
  -- with RemoveUnused a normal form has no shared sections and no unused definition
  have hru : o.removeUnused = true → nfShared d = true ∧ nfUnused fc x d = true :=
    fun hru => hr.resolve_left (by simp [hru])
  have hd2 : (if o.removeUnused = true then RemoveUnused.removeShared d else d) = d := by
    split
    · exact removeShared_nf d (hru ‹_›).1
    · rfl
  rw [pipeline_idle fc x o fuel ops hd2 hn (himp _ (initial_inSync fc d) (initial_newRefs fc d) hl) hops (or_assoc.1 hnm) hp]
  split
  · exact removeUnused_nf fc x _ (initial_inSync fc d) (hru ‹_›).2
  · rfl

end Proofs.FlattenNF
