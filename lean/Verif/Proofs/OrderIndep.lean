import Verif.Model.Flatten
import Verif.Proofs.UpdateComm
import Verif.Proofs.Outcome
import Verif.Proofs.ListLemmas

/-!
  Order independence of the map-range loops of Flatten that the model transcribes (C07): for each loop,
  the association list the model folds over stands for *some* iteration order of the Go map; the
  theorems here say that every other order (any permutation) gives the same result.
-/

namespace Proofs.OrderIndep
open J Replace Proofs.UpdateComm

/-- a loop `for e := range m { r := g(e); UpdateRef(sp, key(e), r) }` whose entries designate pairwise different
    positions (`tok`) yields the same document for every iteration order (and fails for every order if it fails for
    one).  `hstep` says that `step` is such a body, whatever its text. -/
theorem updateRefs_perm {α : Type} (k : Kind) (tok : α → List String) (g : α → Outcome String)
    (step : J → α → Outcome J)
    (hstep : ∀ d a d', step d a = .ok d' ↔ ∃ r, g a = .ok r ∧ updR r k d (tok a) = some d')
    {l l' : List α} (hp : l.Perm l') (hpw : l.Pairwise fun a b => PosDistinct (tok a) (tok b)) (d d' : J)
    (h : l.foldlM step d = .ok d') : l'.foldlM step d = .ok d' := by
  refine OutcomeM.foldlM_perm_of_comm step _ PosDistinct.symm ?_ hp d d' hpw h
  intro d a b d' hR hab
  obtain ⟨d1, h1, h2⟩ := OutcomeM.bind_eq_ok.1 hab
  obtain ⟨ra, hra, hu1⟩ := (hstep d a d1).1 h1
  obtain ⟨rb, hrb, hu2⟩ := (hstep d1 b d').1 h2
  obtain ⟨d2, hu3, hu4⟩ := updR_comm ra rb _ _ _ _ _ _ hR hu1 hu2
  exact OutcomeM.bind_eq_ok.2 ⟨d2, (hstep d b d2).2 ⟨rb, hrb, hu3⟩, (hstep d2 a d').2 ⟨ra, hra, hu4⟩⟩

/-- the loop of `normalizeRef` over `opts.Spec.references.allRefs` -/
def normalizeFold (x : Flatten.Ext) (o : Flatten.Opts) (refs : List (String × String)) (d : J) : Outcome J :=
  (refs.filter fun kv => Str.hasPrefix (o.basePath ++ "#/definitions") kv.2).foldlM (fun d kv => do
    let r ← Flatten.ask "mkRef" x.mkRef (Str.join ["#/definitions", Str.base kv.2])
    Replace.updateRef d kv.1 r) d

/-- the loop of `importKnownRef` over `entry.Keys`, the same expression in `Flatten.importExternalReferences` (the loop
    of `importNewRef` over the same keys also records `newRefs` and is not covered) -/
def rerefFold (ref : String) (keys : List String) (d : J) : Outcome J :=
  keys.foldlM (fun d key => Replace.updateRef d key ref) d

/-- tokens of a key of `analyzeSchema("", sch, "/")`: `"#/"` is the schema itself -/
def schemaKeyTokens (key : String) : List String := if key = "#/" then [] else keyTokens key

theorem updateRefInSchema_ok_iff (sch : J) (key ref : String) (sch' : J) :
    Flatten.updateRefInSchema sch key ref = .ok sch' ↔ updR ref .schemaPtr sch (schemaKeyTokens key) = some sch' := by
  unfold Flatten.updateRefInSchema schemaKeyTokens
  split
  · simp [updR, isSchemaKind]
  · exact (setRef_ok .schemaPtr sch (keyTokens key) ref sch').trans updR_eq_some.symm

def rebaseStep (g : String × String → Outcome String) (s : J) (kv : String × String) : Outcome J := do
  let r ← g kv
  match Flatten.updateRefInSchema s kv.1 r with
  | .ok s' => pure s'
  | _ => Outcome.err "cannot rewrite ref"

theorem rebaseStep_ok (g : String × String → Outcome String) (s : J) (kv : String × String) (s' : J) :
    rebaseStep g s kv = .ok s' ↔ ∃ r, g kv = .ok r ∧ updR r .schemaPtr s (schemaKeyTokens kv.1) = some s' := by
  simp only [rebaseStep, OutcomeM.bind_eq_ok, ← updateRefInSchema_ok_iff]
  refine exists_congr fun r => and_congr_right fun _ => ?_
  cases Flatten.updateRefInSchema s kv.1 r <;> simp

def SchemaKeysApart (a b : String × String) : Prop := PosDistinct (schemaKeyTokens a.1) (schemaKeyTokens b.1)

/-- the loop body of `importNewRef` in `Verif/Model/Flatten.lean` is `rebaseStep` -/
theorem importRebase_step_eq (x : Flatten.Ext) (entryRef : String) (s : J) (kv : String × String) :
    (do let rb ← Flatten.rebaseRef entryRef kv.2
        let r ← Flatten.ask "mkRef" x.mkRef rb
        match Flatten.updateRefInSchema s kv.1 r with
        | .ok s' => pure s'
        | _ => Outcome.err "cannot rewrite ref") =
      rebaseStep (fun kv => do let rb ← Flatten.rebaseRef entryRef kv.2; Flatten.ask "mkRef" x.mkRef rb) s kv :=
  (bind_assoc ..).symm

/-- one removal pass for a given list of used names (`expected` in the Go code, built by ranging over
    `references.schemas`) -/
def singlePassWith (used : List String) (d : J) : J × Bool :=
  let defs := d.getObj "definitions"
  let keep := defs.filter fun kv => used.contains kv.1
  if keep.length = defs.length then (d, false) else (d.set "definitions" (.obj keep), true)

theorem singlePassWith_congr {used used' : List String} (h : ∀ n, n ∈ used ↔ n ∈ used') (d : J) :
    singlePassWith used d = singlePassWith used' d := by
  have hc : ∀ n, used.contains n = used'.contains n := fun n => by
    rw [Bool.eq_iff_iff]; simpa only [List.contains_iff_mem] using h n
  simp only [singlePassWith, hc]

theorem singlePassWith_perm {used used' : List String} (hp : used.Perm used') (d : J) :
    singlePassWith used d = singlePassWith used' d :=
  singlePassWith_congr (fun _ => hp.mem_iff) d

def addNew (ps : List String) (a : String) : List String := if ps.contains a then ps else ps ++ [a]

def parentStep (path : String) (ps : List String) (kv : String × String) : List String :=
  if path ≠ kv.2 then ps else addNew ps kv.1

theorem updateRefParents_eq (refs : List (String × String)) (r : Flatten.NewRef) :
    Flatten.updateRefParents refs r =
      if !r.isOAIGen || r.resolved then r else { r with parents := refs.foldl (parentStep r.path) r.parents } := rfl

/-- up to order, `addNew` is `List.insert`, whose congruence and commutation are known -/
theorem addNew_perm_insert (ps : List String) (a : String) : (addNew ps a).Perm (ps.insert a) := by
  unfold addNew List.insert
  split
  · exact .refl _
  · exact List.perm_append_singleton a ps

theorem parentStep_congr (path : String) {ps ps' : List String} (kv : String × String) (hp : ps.Perm ps') :
    (parentStep path ps kv).Perm (parentStep path ps' kv) := by
  unfold parentStep
  split
  · exact hp
  · exact (addNew_perm_insert ps _).trans ((hp.insert _).trans (addNew_perm_insert ps' _).symm)

theorem parentStep_comm (path : String) (ps : List String) (a b : String × String) :
    (parentStep path (parentStep path ps a) b).Perm (parentStep path (parentStep path ps b) a) := by
  unfold parentStep
  split <;> split <;> try exact .refl _
  exact (addNew_perm_insert _ _).trans (((addNew_perm_insert ps _).insert _).trans
    ((List.perm_insert_swap _ _ ps).trans (((addNew_perm_insert ps _).insert _).symm.trans (addNew_perm_insert _ _).symm)))

theorem parents_perm (path : String) {refs refs' : List (String × String)} (hp : refs.Perm refs') (init : List String) :
    (refs.foldl (parentStep path) init).Perm (refs'.foldl (parentStep path) init) :=
  List.foldl_perm_of_comm List.Perm .refl .trans (parentStep path) (parentStep_congr path) (parentStep_comm path) hp init

end Proofs.OrderIndep
