import Verif.Proofs.MixinLoop
import Verif.Proofs.ListLemmas
import Verif.Proofs.StrLemmas

/-!
  C18: the renaming of colliding operation ids keeps all ids distinct.

  * strings: `x ++ "Mixin" ++ toString i` determines `x` and `i`, and is a "Mixin-suffix" of `x`;
  * lists: appending ids one by one, renaming those already present, keeps the list duplicate-free
    as long as no original id is a Mixin-suffix of another one (`renameIds_good`);
  * model: `renameOps`/`mergePaths`/`step` perform exactly this renaming on the recorded ids, and
    the recorded ids are the ids of the accumulated document.
-/

namespace Proofs.Mixin
open J Spec.Mixin

/-- the id given to a colliding operation of mixin number `i` -/
def sfx (x : String) (i : Nat) : String := x ++ "Mixin" ++ toString i

theorem split_at_last {α} (c : α) (l₁ r₁ l₂ r₂ : List α) (h1 : c ∉ r₁) (h2 : c ∉ r₂)
    (h : l₁ ++ c :: r₁ = l₂ ++ c :: r₂) : l₁ = l₂ ∧ r₁ = r₂ := by
  induction l₁ generalizing l₂ with
  | nil =>
    cases l₂ with
    | nil => simpa using h
    | cons y l₂ =>
      simp only [List.nil_append, List.cons_append, List.cons.injEq] at h
      exfalso; apply h1; rw [h.2]; simp
  | cons x l₁ ih =>
    cases l₂ with
    | nil =>
      simp only [List.nil_append, List.cons_append, List.cons.injEq] at h
      exfalso; apply h2; rw [← h.2]; simp
    | cons y l₂ =>
      simp only [List.cons_append, List.cons.injEq] at h
      obtain ⟨e1, e2⟩ := ih l₂ h.2
      exact ⟨by rw [h.1, e1], e2⟩

theorem digits_no_n (i : Nat) : 'n' ∉ (toString i).toList :=
  fun h => absurd (Str.isDigit_of_mem_itoa h) (by decide)

theorem sfx_toList (x : String) (i : Nat) :
    (sfx x i).toList = (x.toList ++ ['M', 'i', 'x', 'i']) ++ 'n' :: (toString i).toList := by
  simp [sfx, String.toList_append]

theorem sfx_inj (x y : String) (i j : Nat) (h : sfx x i = sfx y j) : x = y ∧ i = j := by
  have h' := congrArg String.toList h
  rw [sfx_toList, sfx_toList] at h'
  obtain ⟨e1, e2⟩ := split_at_last 'n' _ _ _ _ (digits_no_n i) (digits_no_n j) h'
  have e1' := List.append_cancel_right e1
  exact ⟨String.toList_inj.1 e1', PointerProof.toString_inj (String.toList_inj.1 e2)⟩

theorem mixinSuffixOf_sfx (x : String) (i : Nat) : mixinSuffixOf x (sfx x i) = true := by
  unfold mixinSuffixOf
  have e : (sfx x i).toList = x.toList ++ ("Mixin".toList ++ (toString i).toList) := by
    simp [sfx, String.toList_append]
  have hd : List.drop 5 ("Mixin".toList ++ (toString i).toList) = (toString i).toList := by simp
  simp only [e, List.drop_left, hd, Bool.and_eq_true, decide_eq_true_eq, List.all_eq_true]
  refine ⟨List.isPrefixOf_iff_prefix.2 (List.prefix_append _ _),
    ⟨List.isPrefixOf_iff_prefix.2 (List.prefix_append _ _), fun h => ?_⟩,
    List.all_eq_true.1 (Str.all_isDigit_itoa i)⟩
  exact Nat.toDigits_ne_nil ((Str.toList_itoa i).symm.trans h)

theorem sfx_ne_empty (x : String) (i : Nat) : sfx x i ≠ "" := by
  intro h
  have := congrArg String.toList h
  rw [sfx_toList] at this
  simp at this

/-- the ids recorded while adding operations with ids `origs` in mixin number `idx` -/
def renameIds (idx : Nat) (ids origs : List String) : List String :=
  origs.foldl (fun acc id => acc ++ [if acc.contains id then sfx id idx else id]) ids

theorem renameIds_nil (idx : Nat) (ids : List String) : renameIds idx ids [] = ids := rfl

theorem renameIds_cons (idx : Nat) (ids : List String) (id : String) (origs : List String) :
    renameIds idx ids (id :: origs) =
      renameIds idx (ids ++ [if ids.contains id then sfx id idx else id]) origs := rfl

theorem renameIds_append (idx : Nat) (ids a b : List String) :
    renameIds idx ids (a ++ b) = renameIds idx (renameIds idx ids a) b := by
  simp [renameIds, List.foldl_append]

/-- `A`: the original ids of all documents; no one is a Mixin-suffix of another.  `C18.NoMixinSuffixClash docs` is
    `NoClash (docs.flatMap opIds)` unfolded. -/
def NoClash (A : List String) : Prop := ∀ x ∈ A, ∀ y ∈ A, mixinSuffixOf x y = false

/-- the recorded ids while mixin number `idx` is being merged, `done` being the original ids of its
    operations added so far: no duplicates, and every id is an original one or one renamed in an earlier
    mixin or, from an id in `done`, in this one -/
structure IdsInv (A : List String) (idx : Nat) (done ids : List String) : Prop where
  nodup : ids.Nodup
  form : ∀ y ∈ ids, y ∈ A ∨ ∃ z j, y = sfx z j ∧ (j < idx ∨ j = idx ∧ z ∈ done)

theorem IdsInv.snoc {A : List String} {idx : Nat} {done ids : List String} (h : IdsInv A idx done ids)
    (id y : String) (hy : y ∉ ids) (hf : y ∈ A ∨ y = sfx id idx) : IdsInv A idx (done ++ [id]) (ids ++ [y]) where
  nodup := List.nodup_append.2 ⟨h.nodup, by simp, fun a ha b hb => by
    rw [List.mem_singleton] at hb; exact fun e => hy (hb ▸ e ▸ ha)⟩
  form := by
    intro z hz
    rcases List.mem_append.1 hz with hz | hz
    · exact (h.form z hz).imp_right fun ⟨x, j, e, hj⟩ =>
        ⟨x, j, e, hj.imp_right fun ⟨ej, hx⟩ => ⟨ej, List.mem_append_left _ hx⟩⟩
    · rw [List.mem_singleton] at hz
      exact hf.imp (hz ▸ ·) fun hs => ⟨id, idx, hz.trans hs, Or.inr ⟨rfl, by simp⟩⟩

theorem renameIds_inv (A : List String) (hA : NoClash A) (idx : Nat) (origs : List String) :
    ∀ (done ids : List String), IdsInv A idx done ids → (done ++ origs).Nodup → (∀ x ∈ origs, x ∈ A) →
      IdsInv A idx (done ++ origs) (renameIds idx ids origs) := by
  induction origs with
  | nil => intro done ids h _ _; simpa [renameIds_nil] using h
  | cons id rest ih =>
    intro done ids h hnd hin
    rw [renameIds_cons]
    have hid : id ∉ done := fun hm => (List.nodup_append.1 hnd).2.2 id hm id (by simp) rfl
    have hidA : id ∈ A := hin id (by simp)
    have e : done ++ id :: rest = (done ++ [id]) ++ rest := by simp
    rw [e] at hnd ⊢
    apply ih (done ++ [id]) _ _ hnd (fun x hx => hin x (by simp [hx]))
    by_cases hc : ids.contains id = true
    · -- renamed: the new id is none of the recorded ones, whichever form those have
      rw [if_pos hc]
      refine h.snoc id _ (fun hm => ?_) (Or.inr rfl)
      rcases h.form _ hm with h1 | ⟨z, j, h2, hj⟩
      · exact Bool.false_ne_true ((hA id hidA _ h1).symm.trans (mixinSuffixOf_sfx id idx))
      · obtain ⟨rfl, rfl⟩ := sfx_inj _ _ _ _ h2
        exact hj.elim (Nat.lt_irrefl _) fun ⟨_, hz⟩ => hid hz
    · rw [if_neg hc]
      exact h.snoc id _ (by simpa using hc) (Or.inl hidA)

/-- merging one mixin keeps the recorded ids distinct (between two mixins `done` is empty) -/
theorem renameIds_good (A : List String) (hA : NoClash A) (idx : Nat) (ids origs : List String)
    (h : IdsInv A idx [] ids) (hnd : origs.Nodup) (hin : ∀ x ∈ origs, x ∈ A) :
    IdsInv A (idx + 1) [] (renameIds idx ids origs) := by
  have := renameIds_inv A hA idx origs [] ids h (by simpa using hnd) hin
  exact ⟨this.nodup, fun y hy => (this.form y hy).imp_right fun ⟨z, j, e, hj⟩ =>
    ⟨z, j, e, Or.inl (by omega)⟩⟩

def idsOf (ks : List String) (pi : J) : List String :=
  (ks.filterMap fun m => (pi.get? m).map (·.getStr "operationId")).filter (· ≠ "")

/-- the loop body of `renameOps` when empty ids are skipped -/
def renBody (idx : Nat) (acc : J × List String) (m : String) : J × List String :=
  match acc.1.get? m with
  | some op =>
    if op.getStr "operationId" = "" then acc
    else
      (acc.1.set m (op.set "operationId"
          (.str (if acc.2.contains (op.getStr "operationId") then sfx (op.getStr "operationId") idx
                 else op.getStr "operationId"))),
       acc.2 ++ [if acc.2.contains (op.getStr "operationId") then sfx (op.getStr "operationId") idx
                 else op.getStr "operationId"])
  | none => acc

theorem renameOps_eq (f : Facts) (hs : f.mixinSkipsEmptyIDs = true) (idx : Nat) (ids : List String) (pi : J) :
    Mixin.renameOps f idx ids pi = (Mixin.opKeys f pi).foldl (renBody idx) (pi, ids) := by
  unfold Mixin.renameOps
  congr 1
  funext acc m
  unfold renBody
  cases acc.1.get? m with
  | none => rfl
  | some op => simp [hs, sfx]

theorem idsOf_nil (pi : J) : idsOf [] pi = [] := rfl

theorem idsOf_cons (m : String) (ks : List String) (pi : J) :
    idsOf (m :: ks) pi =
      if getStrO "operationId" (pi.get? m) = "" then idsOf ks pi
      else getStrO "operationId" (pi.get? m) :: idsOf ks pi := by
  cases h : pi.get? m with
  | none => simp [idsOf, h, getStrO]
  | some op => by_cases he : op.getStr "operationId" = "" <;> simp [idsOf, h, he, getStrO]

theorem idsOf_append (a b : List String) (pi : J) : idsOf (a ++ b) pi = idsOf a pi ++ idsOf b pi := by
  simp [idsOf]

theorem idsOf_congr (ks : List String) (a b : J) (h : ∀ m ∈ ks, a.get? m = b.get? m) :
    idsOf ks a = idsOf ks b := by
  unfold idsOf
  rw [List.filterMap_congr' (fun m hm => by rw [h m hm])]

/-- one round: the id of the operation under `m`, if it has one, is recorded, under a new name if it is
    taken, and written back; no other key is touched -/
theorem renBody_spec (idx : Nat) (acc : J × List String) (m : String) :
    (renBody idx acc m).2 = renameIds idx acc.2 (idsOf [m] acc.1) ∧
    (renBody idx acc m).2 = acc.2 ++ idsOf [m] (renBody idx acc m).1 ∧
    (∀ m', m' ≠ m → (renBody idx acc m).1.get? m' = acc.1.get? m') ∧
    (∀ m', ((renBody idx acc m).1.get? m').isSome = (acc.1.get? m').isSome) := by
  unfold renBody
  cases hop : acc.1.get? m with
  | none => simp [idsOf_cons, idsOf_nil, getStrO, hop, renameIds_nil]
  | some op =>
    by_cases he : op.getStr "operationId" = ""
    · simp [idsOf_cons, idsOf_nil, getStrO, hop, he, renameIds_nil]
    · have hpi : acc.1.isObj = true := isObj_of_get? hop
      have hne : (if acc.2.contains (op.getStr "operationId") then sfx (op.getStr "operationId") idx
          else op.getStr "operationId") ≠ "" := by
        split
        · exact sfx_ne_empty _ _
        · exact he
      simp only [if_neg he]
      refine ⟨?_, ?_, fun m' h => get?_set_ne _ _ _ _ h, fun m' => ?_⟩
      · rw [idsOf_cons, hop, idsOf_nil, getStrO, if_neg he, renameIds_cons, renameIds_nil]
      · rw [idsOf_cons, get?_set_self _ _ _ hpi, idsOf_nil, getStrO, getStr_set_self _ _ _ (isObj_of_getStr he),
          if_neg hne]
      · by_cases e : m' = m
        · subst e; rw [get?_set_self _ _ _ hpi, hop]; rfl
        · rw [get?_set_ne _ _ _ _ e]

/-- the keys being distinct, a round finds under its key what the path item had there at the start -/
theorem foldl_renBody (idx : Nat) (ks : List String) (hnd : ks.Nodup) (acc : J × List String) :
    (ks.foldl (renBody idx) acc).2 = renameIds idx acc.2 (idsOf ks acc.1) ∧
    (ks.foldl (renBody idx) acc).2 = acc.2 ++ idsOf ks (ks.foldl (renBody idx) acc).1 ∧
    (∀ m, m ∉ ks → (ks.foldl (renBody idx) acc).1.get? m = acc.1.get? m) ∧
    (∀ m, ((ks.foldl (renBody idx) acc).1.get? m).isSome = (acc.1.get? m).isSome) := by
  induction ks generalizing acc with
  | nil => simp [idsOf_nil, renameIds_nil]
  | cons m ks ih =>
    rw [List.nodup_cons] at hnd
    obtain ⟨s1, s2, s3, s4⟩ := renBody_spec idx acc m
    obtain ⟨h1, h2, h3, h4⟩ := ih hnd.2 (renBody idx acc m)
    have hks : idsOf ks (renBody idx acc m).1 = idsOf ks acc.1 :=
      idsOf_congr _ _ _ fun m' hm' => s3 m' fun e => hnd.1 (e ▸ hm')
    have hm : idsOf [m] (ks.foldl (renBody idx) (renBody idx acc m)).1 = idsOf [m] (renBody idx acc m).1 :=
      idsOf_congr _ _ _ fun m' hm' => by rw [List.mem_singleton.1 hm']; exact h3 m hnd.1
    rw [List.foldl_cons, ← List.singleton_append, idsOf_append, idsOf_append]
    refine ⟨?_, ?_, fun m' hm' => ?_, fun m' => (h4 m').trans (s4 m')⟩
    · rw [h1, hks, s1, renameIds_append]
    · rw [h2, s2, hm, List.append_assoc]
    · rw [List.singleton_append, List.mem_cons, not_or] at hm'
      rw [h3 m' hm'.2, s3 m' hm'.1]

theorem pathItemIDs_eq (f : Facts) (hs : f.mixinSkipsEmptyIDs = true) (pi : J) :
    Mixin.pathItemIDs f pi = idsOf (Mixin.opKeys f pi) pi := by
  unfold Mixin.pathItemIDs idsOf
  apply List.filter_congr
  intro id _
  simp [hs]

theorem opKeys_congr (f : Facts) (a b : J) (h : ∀ m, (a.get? m).isSome = (b.get? m).isSome) :
    Mixin.opKeys f a = Mixin.opKeys f b := by
  unfold Mixin.opKeys
  apply List.filter_congr
  intro m _
  exact h m

theorem renameOps_spec (f : Facts) (hs : f.mixinSkipsEmptyIDs = true) (hnd : f.mixinMethods.Nodup)
    (idx : Nat) (ids : List String) (pi : J) :
    (Mixin.renameOps f idx ids pi).2 = renameIds idx ids (Mixin.pathItemIDs f pi) ∧
    (Mixin.renameOps f idx ids pi).2 = ids ++ Mixin.pathItemIDs f (Mixin.renameOps f idx ids pi).1 := by
  have hk : (Mixin.opKeys f pi).Nodup := List.Sublist.nodup List.filter_sublist hnd
  obtain ⟨h1, h2, _, h4⟩ := foldl_renBody idx (Mixin.opKeys f pi) hk (pi, ids)
  rw [renameOps_eq f hs, pathItemIDs_eq f hs, pathItemIDs_eq f hs]
  refine ⟨h1, ?_⟩
  rw [opKeys_congr f _ pi h4]
  exact h2

def idsIn (f : Facts) (kvs : List (String × J)) : List String :=
  (kvs.filter fun kv => Doc.isPathKey kv.1).flatMap fun kv => Mixin.pathItemIDs f kv.2

theorem getOpIDs_eq (f : Facts) (d : J) : Mixin.getOpIDs f d = idsIn f (d.getObj "paths") := rfl

theorem idsIn_append (f : Facts) (a b : List (String × J)) : idsIn f (a ++ b) = idsIn f a ++ idsIn f b := by
  simp [idsIn]

/-- the ids `mergePaths` records are the renamed ids of the path items it adds (some of the mixin's,
    in order), and they are the ids found in the merged paths -/
theorem foldl_pathsBody_ids (f : Facts) (hs : f.mixinSkipsEmptyIDs = true) (hnd : f.mixinMethods.Nodup)
    (idx : Nat) (mp : List (String × J)) :
    ∀ (acc : Mixin.PathsAcc), idsIn f acc.paths = acc.ids →
      ∃ origs, origs.Sublist (idsIn f mp) ∧
        (mp.foldl (pathsBody f idx) acc).ids = renameIds idx acc.ids origs ∧
        idsIn f (mp.foldl (pathsBody f idx) acc).paths = (mp.foldl (pathsBody f idx) acc).ids := by
  induction mp with
  | nil => intro acc h; exact ⟨[], List.Sublist.refl _, rfl, h⟩
  | cons kv mp ih =>
    intro acc hi
    simp only [List.foldl_cons]
    cases hP : Doc.isPathKey kv.1
    · rw [pathsBody_skip _ _ _ _ hP]
      have e : idsIn f (kv :: mp) = idsIn f mp := by simp [idsIn, hP]
      rw [e]; exact ih acc hi
    · have e : idsIn f (kv :: mp) = Mixin.pathItemIDs f kv.2 ++ idsIn f mp := by simp [idsIn, hP]
      rw [e]
      cases hl : (lookup kv.1 acc.paths).isSome
      · rw [pathsBody_new _ _ _ _ hP hl]
        obtain ⟨s1, s2⟩ := renameOps_spec f hs hnd idx acc.ids kv.2
        obtain ⟨origs, hsub, h1, h2⟩ := ih
          ⟨acc.paths ++ [(kv.1, (Mixin.renameOps f idx acc.ids kv.2).1)], (Mixin.renameOps f idx acc.ids kv.2).2,
            acc.warns⟩
          (by rw [idsIn_append, hi, s2]; simp [idsIn, hP])
        exact ⟨_, List.Sublist.append (List.Sublist.refl _) hsub, by rw [h1, renameIds_append, ← s1], h2⟩
      · rw [pathsBody_hit _ _ _ _ hP hl]
        obtain ⟨origs, hsub, h1, h2⟩ := ih ⟨acc.paths, acc.ids, acc.warns ++ [("paths", kv.1)]⟩ hi
        exact ⟨origs, hsub.trans (List.sublist_append_right _ _), h1, h2⟩

theorem idsOf_opKeys (f : Facts) (pi : J) : idsOf (Mixin.opKeys f pi) pi = idsOf f.mixinMethods pi := by
  unfold idsOf Mixin.opKeys
  rw [List.filterMap_filter]
  congr 1
  apply List.filterMap_congr'
  intro m _
  cases pi.get? m <;> simp

theorem idsOf_perm (ks ks' : List String) (h : ks.Perm ks') (pi : J) : (idsOf ks pi).Perm (idsOf ks' pi) :=
  List.Perm.filter _ (List.Perm.filterMap _ h)

theorem opIds_eq (d : J) : opIds d = (Doc.pathItems d).flatMap fun kv => idsOf Doc.methods kv.2 := by
  unfold opIds idsOf
  rw [List.filter_flatMap]

theorem getOpIDs_perm (f : Facts) (hm : f.mixinMethods.Perm Doc.methods) (hs : f.mixinSkipsEmptyIDs = true)
    (d : J) : (Mixin.getOpIDs f d).Perm (opIds d) := by
  rw [opIds_eq]
  unfold Mixin.getOpIDs
  apply List.flatMap_perm_congr
  intro kv _
  rw [pathItemIDs_eq f hs, idsOf_opKeys]
  exact idsOf_perm _ _ hm _

theorem nodup_of_perm_methods {ks : List String} (h : ks.Perm Doc.methods) : ks.Nodup :=
  h.nodup_iff.2 (by simp [Doc.methods])

theorem mixin_ids_nodup (f : Facts) (hm : f.mixinMethods.Perm Doc.methods) (hs : f.mixinSkipsEmptyIDs = true)
    (p : J) (ms : List J) (r : J × List Mixin.Warn) (hp : p.isObj = true) (hr : Mixin.mixin f p ms = .ok r)
    (hu : ∀ d ∈ p :: ms, (opIds d).Nodup) (hc : NoClash ((p :: ms).flatMap opIds)) :
    (opIds r.1).Nodup := by
  have hnd := nodup_of_perm_methods hm
  have hQ : ∀ d ∈ p :: ms, (Mixin.getOpIDs f d).Nodup ∧ ∀ x ∈ Mixin.getOpIDs f d, x ∈ (p :: ms).flatMap opIds :=
    fun d hd => ⟨(getOpIDs_perm f hm hs d).nodup_iff.2 (hu d hd),
      fun x hx => List.mem_flatMap.2 ⟨d, hd, (getOpIDs_perm f hm hs d).mem_iff.1 hx⟩⟩
  obtain ⟨st', e, hinv⟩ := mixin_inv f
    (fun i _ st => Mixin.getOpIDs f st.doc = st.ids ∧ IdsInv ((p :: ms).flatMap opIds) i [] st.ids)
    (fun m => (Mixin.getOpIDs f m).Nodup ∧ ∀ x ∈ Mixin.getOpIDs f m, x ∈ (p :: ms).flatMap opIds)
    (fun i ds st m p1 w1 st' _ ⟨hids, hg⟩ ⟨hmn, hmA⟩ sf => by
      obtain ⟨origs, hsub, m1, m2⟩ := foldl_pathsBody_ids f hs hnd i (m.getObj "paths")
        ⟨st.doc.getObj "paths", st.ids, []⟩ (by rw [← getOpIDs_eq]; exact hids)
      refine ⟨?_, ?_⟩
      · rw [getOpIDs_eq, sf.paths, sf.ids, mergePaths_eq]; exact m2
      · rw [sf.ids, mergePaths_eq, m1]
        exact renameIds_good _ hc i st.ids _ hg (hsub.nodup hmn) (fun x hx => hmA x (hsub.subset hx)))
    p ms r hp hr (fun m hmem => hQ m (List.mem_cons_of_mem _ hmem))
    ⟨by rw [getOpIDs_eq, getOpIDs_eq, initPrimary_getObj p hp], (hQ p List.mem_cons_self).1,
      fun y hy => Or.inl ((hQ p List.mem_cons_self).2 y hy)⟩
  rw [e, ← (getOpIDs_perm f hm hs st'.doc).nodup_iff, hinv.1]
  exact hinv.2.nodup

end Proofs.Mixin
