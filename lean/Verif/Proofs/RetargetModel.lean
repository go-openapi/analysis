import Verif.Proofs.Inline
import Verif.Proofs.Move
import Verif.Proofs.UpdateComm

/-!
  The settings of `Proofs.Retarget` and `Proofs.Inline` instantiated for writes into the root document of a bundle, on
  token paths: `UpdateComm.updR v' .swagger d toks`, the recursion of `Replace.updateRef` (`replace.UpdateRef`), gives a
  re-targeting (namespace `Proofs.RetargetModel`); the `Replace.setAt` of `replace.UpdateRefWithSchema` gives an
  in-place expansion (namespace `Proofs.InlineModel`, which has no file of its own).  The passage to the model
  functions is made in `Properties/C01Move.lean`.
-/

namespace Proofs.InlineModel
open Spec.Meaning Proofs.Move

/-- positions a write at `toks` cannot be seen from: other documents, and canonical pointers of the root that do not
    pass through `toks` -/
def GoodI (toks : List String) (p : Pos) : Prop :=
  p.1 ≠ "" ∨ (AllCanon p.2 ∧ ¬ toks <+: p.2)

theorem GoodI.mono {w w' : List String} {p : Pos} (hw : w <+: w') (h : GoodI w p) : GoodI w' p :=
  h.imp_right fun ⟨hc, hn⟩ => ⟨hc, fun hp => hn (hw.trans hp)⟩

end Proofs.InlineModel

namespace Proofs.RetargetModel
open J Replace Spec.Meaning Proofs.Bisim Proofs.Retarget Proofs.Move Proofs.MoveBase

theorem nodeSim_off {d d' v old : J} {w : List String} (T : List (String × Pos)) (rest : Bundle)
    (hset : setAt d w v = some d') (hold : Spec.Pointer.get d w = some old) (hso : ∀ s, old ≠ .str s)
    (hsv : ∀ s, v ≠ .str s) (hcanon : AllCanon w) {p : Pos} (hg : InlineModel.GoodI w p) :
    NodeSim ((bundleWith d T rest).node p) ((bundleWith d' T rest).node p) :=
  nodeSim_bundle T rest fun hp1 =>
    have ⟨hc, hnb⟩ := hg.resolve_left fun h => h hp1
    get_setAt_off hso hsv hset hold hcanon p.2 hc hnb

theorem off_kids {d : J} {T : List (String × Pos)} {rest : Bundle} {w : List String} {x : Pos} {a : J}
    (hkeys : keysCanon d = true) (hg : InlineModel.GoodI w x) (hn : (bundleWith d T rest).node x = some a) :
    Kids (fun k => InlineModel.GoodI w (child x k) ∨ child x k = ("", w)) a := by
  obtain ⟨xd, xp⟩ := x
  by_cases hx1 : xd = ""
  · subst hx1
    obtain ⟨hc, hnb⟩ := hg.resolve_left fun h => h rfl
    rw [node_root] at hn
    refine (kids_canon hkeys hn).mono fun k hk => ?_
    by_cases hpre : w <+: xp ++ [k]
    · rcases List.prefix_concat_iff.1 hpre with heq | hp
      · exact Or.inr (by simp [child, heq])
      · exact absurd hp hnb
    · exact Or.inl (Or.inr ⟨hc.concat hk.1, hpre⟩)
  · exact Kids.const fun _ => Or.inl (Or.inl hx1)

theorem refStr_obj {a : J} (h : Doc.refStr a ≠ "") : ∃ m, a = .obj m := (isObj_iff a).1 (isObj_of_getStr h)

theorem refStr_set (a : J) (v : String) (h : ∃ m, a = .obj m) : Doc.refStr (a.set "$ref" (.str v)) = v :=
  getStr_set_self a "$ref" v ((isObj_iff a).2 h)

theorem updR_setAt {d d' a1 : J} {toks : List String} {v' : String}
    (h : Proofs.UpdateComm.updR v' .swagger d toks = some d') (hget : Spec.Pointer.get d toks = some a1) :
    setAt d toks (a1.set "$ref" (.str v')) = some d' := by
  obtain ⟨node, _, hw, _, hs⟩ := Proofs.UpdateComm.updR_eq_some.1 h
  cases (ReplaceKeys.get_of_walk hw).symm.trans hget
  exact hs

/-- `updR` keeps the siblings of `$ref`: only the `$ref` member of the rewritten node is off limits -/
theorem updR_frame_get {d d' : J} {toks : List String} {v' : String} {a1 : J}
    (h : Proofs.UpdateComm.updR v' .swagger d toks = some d') (hget : Spec.Pointer.get d toks = some a1)
    (hv1 : Doc.refStr a1 ≠ "") (hcanon : AllCanon toks) {pp : List String} (hc : AllCanon pp)
    (hnr : ¬ (toks ++ ["$ref"]) <+: pp) (hne : pp ≠ toks) :
    NodeSim (Spec.Pointer.get d pp) (Spec.Pointer.get d' pp) := by
  have hset := updR_setAt h hget
  by_cases hpre : toks <+: pp
  · obtain ⟨s, rfl⟩ := hpre
    cases s with
    | nil => exact absurd (by simp) hne
    | cons t r =>
      refine NodeSim.of_eq ?_
      rw [PointerProof.get_append, PointerProof.get_append, hget, SetAt.get_setAt_self hset]
      exact SetAt.get_set_ne a1 _ r fun e => hnr ⟨r, by simp [e]⟩
  · obtain ⟨m, rfl⟩ := refStr_obj hv1
    exact get_setAt_off (old := .obj m) (fun _ => nofun) (fun _ => by simp [J.set]) hset hget hcanon pp hc hpre

theorem updR_keeps_ref {d d' : J} {toks : List String} {v' : String} {a1 : J}
    (h : Proofs.UpdateComm.updR v' .swagger d toks = some d') (hget : Spec.Pointer.get d toks = some a1)
    (hv1 : Doc.refStr a1 ≠ "") (hcanon : AllCanon toks) {pp : List String} {a : J} (hc : AllCanon pp)
    (hnr : ¬ (toks ++ ["$ref"]) <+: pp) (hne : pp ≠ toks) (hg : Spec.Pointer.get d pp = some a) :
    ∃ c, Spec.Pointer.get d' pp = some c ∧ Doc.refStr c = Doc.refStr a := by
  obtain ⟨c, h2, hr, _⟩ := (updR_frame_get h hget hv1 hcanon hc hnr hne).of_some hg
  exact ⟨c, h2, hr⟩

/-- `InlineModel.GoodI (toks ++ ["$ref"])`, and used as such (`off_kids`, `GoodI.mono`): a re-targeting hides only the
    `$ref` member of the rewritten node -/
def Good (toks : List String) (p : Pos) : Prop :=
  p.1 ≠ "" ∨ (AllCanon p.2 ∧ ¬ (toks ++ ["$ref"]) <+: p.2)

def retargetSetting (d d' : J) (toks : List String) (v' : String)
    (h : Proofs.UpdateComm.updR v' .swagger d toks = some d')
    (T : List (String × Pos)) (rest : Bundle) (a1 : J)
    (hget : Spec.Pointer.get d toks = some a1) (hv1 : Doc.refStr a1 ≠ "") (hv2 : v' ≠ "")
    (q0 q' : Pos) (ht1 : T.lookup (Doc.refStr a1) = some q0) (ht2 : T.lookup v' = some q')
    (hreach : Reaches (bundleWith d T rest) q0 q')
    (hcanon : AllCanon toks) (hkeys : keysCanon d = true)
    (hgoodT : ∀ doc s q, (bundleWith d T rest).target doc s = some q → Good toks q) : RSetting :=
  have hset := updR_setAt h hget
  have hobj := refStr_obj hv1
  { b1 := bundleWith d T rest
    b2 := bundleWith d' T rest
    kp := ("", toks)
    q0 := q0
    q' := q'
    Good := Good toks
    a1 := a1
    a2 := a1.set "$ref" (.str v')
    htarget := fun _ _ => rfl
    hnodes := fun p hg hne => nodeSim_bundle T rest fun hp1 =>
      have ⟨hc, hnr⟩ := hg.resolve_left fun h => h hp1
      updR_frame_get h hget hv1 hcanon hc hnr fun e => hne (Prod.ext hp1 e)
    hk1 := (node_root ..).trans hget
    hk2 := (node_root ..).trans (SetAt.get_setAt_self hset)
    hv1 := hv1
    hv2 := by rwa [refStr_set a1 v' hobj]
    ht1 := (target_root ..).trans ht1
    ht2 := by rw [refStr_set a1 v' hobj]; exact (target_root ..).trans ht2
    hreach := hreach
    hgoodT := hgoodT
    hgoodC := by
      intro e a hg hne hn
      -- `off_kids` at `w := toks ++ ["$ref"]`; a child equal to `("", w)` would make `e = ("", toks)`
      exact (off_kids hkeys hg hn).mono fun k h => h.resolve_right fun h =>
        hne (Prod.ext (congrArg Prod.fst h :) (List.append_inj_left' (congrArg Prod.snd h :) rfl)) }

theorem updR_retarget_preserves (d d' : J) (toks : List String) (v' : String)
    (h : Proofs.UpdateComm.updR v' .swagger d toks = some d')
    (T : List (String × Pos)) (rest : Bundle) (a1 : J)
    (hget : Spec.Pointer.get d toks = some a1) (hv1 : Doc.refStr a1 ≠ "") (hv2 : v' ≠ "")
    (q0 q' : Pos) (ht1 : T.lookup (Doc.refStr a1) = some q0) (ht2 : T.lookup v' = some q')
    (hreach : Reaches (bundleWith d T rest) q0 q')
    (hcanon : AllCanon toks) (hkeys : keysCanon d = true)
    (hgoodT : ∀ doc s q, (bundleWith d T rest).target doc s = some q → Good toks q)
    (hops : Nat) (had : RSetting.Adequate (bundleWith d T rest) hops) :
    ∀ n p, Good toks p →
      unfold (bundleWith d T rest) hops n p = unfold (bundleWith d' T rest) hops n p :=
  (retargetSetting d d' toks v' h T rest a1 hget hv1 hv2 q0 q' ht1 ht2 hreach hcanon hkeys hgoodT).retarget_preserves hops had

end Proofs.RetargetModel

namespace Proofs.InlineModel
open J Replace Spec.Meaning Proofs.Retarget Proofs.Inline Proofs.RetargetModel Proofs.Move Proofs.MoveBase

theorem setAt_inline_preserves (d d' : J) (toks : List String) (sch : J)
    (hset : setAt d toks sch = some d')
    (T : List (String × Pos)) (rest : Bundle) (a1 : J)
    (hget : Spec.Pointer.get d (toks) = some a1) (hv1 : Doc.refStr a1 ≠ "")
    (etoks : List String) (hsch : Spec.Pointer.get d etoks = some sch) (hobj : ∃ m, sch = .obj m)
    (hne : Doc.refStr sch = "")
    (q0 : Pos) (ht1 : T.lookup (Doc.refStr a1) = some q0)
    (hreach : Reaches (bundleWith d T rest) q0 ("", etoks))
    (hcanon : AllCanon (toks)) (hkeys : keysCanon d = true)
    (hgoodT : ∀ doc s q, (bundleWith d T rest).target doc s = some q →
      GoodI (toks) q ∨ q = ("", toks))
    (hops : Nat) (had : RSetting.Adequate (bundleWith d T rest) hops) (hpos : 0 < hops) :
    (∀ n p, GoodI (toks) p ∨ p = ("", toks) →
      unfold (bundleWith d T rest) hops n p = unfold (bundleWith d' T rest) hops n p) ∧
    (∀ n t, unfold (bundleWith d T rest) hops n ("", etoks ++ t) =
      unfold (bundleWith d' T rest) hops n ("", toks ++ t)) := by
  obtain ⟨m1, rfl⟩ := refStr_obj hv1
  obtain ⟨m, rfl⟩ := hobj
  let S : ISetting := {
    b1 := bundleWith d T rest
    b2 := bundleWith d' T rest
    kp := ("", toks)
    e := ("", etoks)
    q0 := q0
    Good := GoodI toks
    a1 := .obj m1
    ne := .obj m
    htarget := fun _ _ => rfl
    hdoc := rfl
    hnodes := fun p hg => nodeSim_off T rest hset hget (fun _ => nofun) (fun _ => nofun) hcanon hg
    hk1 := (node_root ..).trans hget
    hv1 := hv1
    ht1 := (target_root ..).trans ht1
    hreach := hreach
    he := (node_root ..).trans hsch
    hene := hne
    hcopy := by
      intro t
      show (bundleWith d' T rest).node ("", toks ++ t) = (bundleWith d T rest).node ("", etoks ++ t)
      rw [node_root, node_root, PointerProof.get_append, PointerProof.get_append, SetAt.get_setAt_self hset, hsch]
    hgoodT := hgoodT
    hgoodC := fun x a hg hn => off_kids hkeys hg hn }
  exact S.inline_preserves hops had hpos

end Proofs.InlineModel
