import Verif.Proofs.Bisim

/-!
  Chains of `$ref`s (`Reaches`); how the chains of two bundles simulate each other (`chase_sim`, `chase_sim_ex`: the
  scheme behind the meaning-preservation proofs of all four rewrites); and the re-targeting in
  `InlineSchemaNamer.Name` (and in the `TopLevel` branch of `namePointers`): `UpdateRef(k, #/definitions/newName)` where
  the old value of the `$ref` led, through anonymous pointers, to the place that now holds
  `$ref: #/definitions/newName`.

  On bundles (`RSetting`): two bundles with the same `$ref` tables and like nodes at every good position except `kp`,
  where the first holds a `$ref` to `q0` and the second a `$ref` to some `q'` on the chain of `$ref`s from `q0`, give
  every good position the same tree, for an adequate hop bound.
-/

namespace Proofs.Retarget
open J Spec.Meaning _root_.Cert Proofs.Bisim

inductive Reaches (b : Bundle) : Pos → Pos → Prop
  | refl (q : Pos) : Reaches b q q
  | step {p t q : Pos} {j : J} : b.node p = some j → Doc.refStr j ≠ "" → b.target p.1 (Doc.refStr j) = some t →
      Reaches b t q → Reaches b p q

theorem Reaches.of_hop {b : Bundle} {p t q : Pos} (hh : Hop b p t) (hr : Reaches b t q) : Reaches b p q := by
  obtain ⟨j, hn, hne, ht⟩ := hh
  exact .step hn hne ht hr

theorem reaches_chase (b : Bundle) {p q : Pos} (hr : Reaches b p q) : ∀ (h : Nat) (e : Pos),
    chase b h p = some e → chase b h q = some e := by
  induction hr with
  | refl q => intro h e hc; exact hc
  | step hn hne ht _ ih =>
    intro h e hc
    cases h with
    | zero => simp [chase] at hc
    | succ h =>
      rw [chase_hop ⟨_, hn, hne, ht⟩] at hc
      exact chase_mono (ih h e hc)

theorem reaches_chase_back (b : Bundle) {p q : Pos} (hr : Reaches b p q) : ∀ (h : Nat) (e : Pos),
    chase b h q = some e → ∃ m, chase b (h + m) p = some e := by
  induction hr with
  | refl q => intro h e hc; exact ⟨0, hc⟩
  | step hn hne ht _ ih =>
    intro h e hc
    obtain ⟨m, hm⟩ := ih h e hc
    exact ⟨m + 1, (chase_hop ⟨_, hn, hne, ht⟩ (h + m)).trans hm⟩

/-! `R` relates positions of two bundles.  Where the first ends, the second ends on a related position; a hop of the
  first — after which the first may run ahead along its own chain, to `t1` — is answered by the second so that it
  arrives at some `t2` related to `t1`.  Bounded form: the answer is one hop or none, and the second needs at most `s`
  hops more (`s + 1` in `hend`: the first has spent one unit of fuel on the node it ends at).  Unbounded form: the
  answer is any chain. -/

theorem chase_sim {b1 b2 : Bundle} {R : Pos → Pos → Prop} {s : Nat}
    (hend : ∀ p q, R p q → Ends b1 p → ∃ y, chase b2 (s + 1) q = some y ∧ R p y)
    (hhop : ∀ p q t, R p q → Hop b1 p t → ∃ t1 t2, Reaches b1 t t1 ∧ R t1 t2 ∧ (Hop b2 q t2 ∨ t2 = q)) :
    ∀ (h : Nat) (p q x : Pos), R p q → chase b1 h p = some x → ∃ y, chase b2 (h + s) q = some y ∧ R x y := by
  intro h
  induction h with
  | zero => intro p q x _ hc; simp [chase] at hc
  | succ h ih =>
    intro p q x hr hc
    rcases chase_succ_iff.1 hc with ⟨he, rfl⟩ | ⟨t, hh, hc⟩
    · obtain ⟨y, hy, hxy⟩ := hend _ _ hr he
      exact ⟨y, chase_le hy (by omega), hxy⟩
    · obtain ⟨t1, t2, hr1, hr2, hq⟩ := hhop _ _ _ hr hh
      obtain ⟨y, hy, hxy⟩ := ih t1 t2 x hr2 (reaches_chase b1 hr1 h x hc)
      refine ⟨y, ?_, hxy⟩
      rw [show h + 1 + s = (h + s) + 1 by omega]
      rcases hq with hq | rfl
      · rw [chase_hop hq]
        exact hy
      · exact chase_mono hy

theorem chase_sim_ex {b1 b2 : Bundle} {R : Pos → Pos → Prop}
    (hend : ∀ p q, R p q → Ends b1 p → ∃ k y, chase b2 k q = some y ∧ R p y)
    (hhop : ∀ p q t, R p q → Hop b1 p t → ∃ t1 t2, Reaches b1 t t1 ∧ R t1 t2 ∧ Reaches b2 q t2) :
    ∀ (h : Nat) (p q x : Pos), R p q → chase b1 h p = some x → ∃ k y, chase b2 k q = some y ∧ R x y := by
  intro h
  induction h with
  | zero => intro p q x _ hc; simp [chase] at hc
  | succ h ih =>
    intro p q x hr hc
    rcases chase_succ_iff.1 hc with ⟨he, rfl⟩ | ⟨t, hh, hc⟩
    · exact hend _ _ hr he
    · obtain ⟨t1, t2, hr1, hr2, hq⟩ := hhop _ _ _ hr hh
      obtain ⟨k, y, hy, hxy⟩ := ih t1 t2 x hr2 (reaches_chase b1 hr1 h x hc)
      obtain ⟨m, hm⟩ := reaches_chase_back b2 hq k y hy
      exact ⟨k + m, y, hm, hxy⟩

def ShapeEq (a c : J) : Prop :=
  match a, c with
  | .obj k1, .obj k2 => (visible k1).map (·.1) = (visible k2).map (·.1)
  | .arr x1, .arr x2 => x1.length = x2.length
  | a, c => isScalar a = true ∧ isScalar c = true ∧ a = c

theorem shapeEq_refl (a : J) : ShapeEq a a := by
  cases a <;> simp [ShapeEq, isScalar]

theorem nodesOK_of_shapeEq {R : Pos → Pos → Prop} {p q : Pos} {a c : J} (hs : ShapeEq a c)
    (hkids : Kids (fun k => R (child p k) (child q k)) a) :
    NodesOK R p q a c := by
  unfold NodesOK
  unfold ShapeEq at hs
  split
  · exact ⟨hs, hkids.1 _ rfl⟩
  · exact ⟨hs, fun i _ => hkids.2 _ rfl i⟩
  · rename_i hno hna
    split at hs
    · exact (hno _ _ rfl rfl).elim
    · exact (hna _ _ rfl rfl).elim
    · exact hs

def NodeSim (o o' : Option J) : Prop :=
  (o = none ∧ o' = none) ∨ ∃ a c, o = some a ∧ o' = some c ∧ Doc.refStr c = Doc.refStr a ∧ ShapeEq a c

theorem NodeSim.refl (o : Option J) : NodeSim o o := by
  cases o with
  | none => exact Or.inl ⟨rfl, rfl⟩
  | some a => exact Or.inr ⟨a, a, rfl, rfl, rfl, shapeEq_refl a⟩

theorem NodeSim.of_eq {o o' : Option J} (h : o' = o) : NodeSim o o' := h ▸ NodeSim.refl o

theorem NodeSim.of_some {o o' : Option J} {a : J} (h : NodeSim o o') (ha : o = some a) :
    ∃ c, o' = some c ∧ Doc.refStr c = Doc.refStr a ∧ ShapeEq a c := by
  rcases h with ⟨h1, _⟩ | ⟨a', c, h1, h2, hr, hs⟩
  · cases h1.symm.trans ha
  · cases h1.symm.trans ha
    exact ⟨c, h2, hr, hs⟩

theorem NodeSim.nodesOK {R : Pos → Pos → Prop} {p q : Pos} {o o' : Option J} {a c : J} (h : NodeSim o o')
    (ha : o = some a) (hc : o' = some c)
    (hkids : Kids (fun k => R (child p k) (child q k)) a) :
    NodesOK R p q a c := by
  obtain ⟨c', hc', _, hs⟩ := h.of_some ha
  cases hc'.symm.trans hc
  exact nodesOK_of_shapeEq hs hkids

theorem NodeSim.ends_iff {b1 b2 : Bundle} {p q : Pos} (h : NodeSim (b1.node p) (b2.node q)) : Ends b2 q ↔ Ends b1 p := by
  rcases h with ⟨h1, h2⟩ | ⟨a, c, h1, h2, hr, _⟩
  · simp [Ends, h1, h2]
  · simp [Ends, h1, h2, hr]

theorem NodeSim.hop_iff {b1 b2 : Bundle} {p q : Pos} (h : NodeSim (b1.node p) (b2.node q))
    (htarget : ∀ a, b1.node p = some a → b2.target q.1 (Doc.refStr a) = b1.target p.1 (Doc.refStr a)) (t : Pos) :
    Hop b2 q t ↔ Hop b1 p t := by
  rcases h with ⟨h1, h2⟩ | ⟨a, c, h1, h2, hr, _⟩
  · simp [Hop, h1, h2]
  · simp [Hop, h1, h2, hr, htarget a h1]

structure RSetting where
  b1 : Bundle
  b2 : Bundle
  kp : Pos
  q0 : Pos
  q' : Pos
  Good : Pos → Prop
  a1 : J
  a2 : J
  htarget : ∀ doc s, b2.target doc s = b1.target doc s
  hnodes : ∀ p, Good p → p ≠ kp →
    (b1.node p = none ∧ b2.node p = none) ∨
    (∃ a c, b1.node p = some a ∧ b2.node p = some c ∧ Doc.refStr c = Doc.refStr a ∧ ShapeEq a c)
  hk1 : b1.node kp = some a1
  hk2 : b2.node kp = some a2
  hv1 : Doc.refStr a1 ≠ ""
  hv2 : Doc.refStr a2 ≠ ""
  ht1 : b1.target kp.1 (Doc.refStr a1) = some q0
  ht2 : b1.target kp.1 (Doc.refStr a2) = some q'
  hreach : Reaches b1 q0 q'
  hgoodT : ∀ doc s q, b1.target doc s = some q → Good q
  hgoodC : ∀ e a, Good e → e ≠ kp → b1.node e = some a →
    (∀ kvs, a = .obj kvs → ∀ key ∈ (visible kvs).map (·.1), Good (child e key)) ∧
    (∀ xs, a = .arr xs → ∀ i : Nat, Good (child e (toString i)))
  -- `hnodes` is `NodeSim (b1.node p) (b2.node p)`, `hgoodC` is `Kids (fun k => Good (child e k)) a`; used as such

namespace RSetting
variable (S : RSetting)

theorem hop1 : Hop S.b1 S.kp S.q0 := ⟨_, S.hk1, S.hv1, S.ht1⟩

theorem hop2 : Hop S.b2 S.kp S.q' := ⟨_, S.hk2, S.hv2, (S.htarget _ _).trans S.ht2⟩

theorem good_of_hop {p t : Pos} (hh : Hop S.b1 p t) : S.Good t := by
  obtain ⟨_, _, _, ht⟩ := hh
  exact S.hgoodT _ _ _ ht

def Same (p q : Pos) : Prop := p = q ∧ S.Good p

theorem chase_fwd_same : ∀ (h : Nat) (p q x : Pos), S.Same p q → chase S.b1 h p = some x →
    ∃ y, chase S.b2 h q = some y ∧ S.Same x y := by
  refine chase_sim (s := 0) ?_ ?_
  · rintro p _ ⟨rfl, hg⟩ he
    have hne : p ≠ S.kp := fun e => S.hop1.not_ends (e ▸ he)
    exact ⟨p, chase_end ((NodeSim.ends_iff (S.hnodes p hg hne)).2 he) 0, rfl, hg⟩
  · rintro p _ t ⟨rfl, hg⟩ hh
    by_cases hp : p = S.kp
    · subst hp
      cases hh.unique S.hop1
      exact ⟨S.q', S.q', S.hreach, ⟨rfl, S.hgoodT _ _ _ S.ht2⟩, Or.inl S.hop2⟩
    · exact ⟨t, t, .refl _, ⟨rfl, S.good_of_hop hh⟩,
        Or.inl ((NodeSim.hop_iff (S.hnodes p hg hp) (fun _ _ => S.htarget _ _) t).2 hh)⟩

theorem chase_fwd : ∀ (h : Nat) (p e : Pos), S.Good p → chase S.b1 h p = some e → chase S.b2 h p = some e := by
  intro h p e hg hc
  obtain ⟨_, hy, rfl, _⟩ := S.chase_fwd_same h p p e ⟨rfl, hg⟩ hc
  exact hy

theorem chase_bwd_same : ∀ (h : Nat) (p q x : Pos), S.Same p q → chase S.b2 h p = some x →
    ∃ k y, chase S.b1 k q = some y ∧ S.Same x y := by
  refine chase_sim_ex ?_ ?_
  · rintro p _ ⟨rfl, hg⟩ he
    have hne : p ≠ S.kp := fun e => S.hop2.not_ends (e ▸ he)
    exact ⟨1, p, chase_end ((NodeSim.ends_iff (S.hnodes p hg hne)).1 he) 0, rfl, hg⟩
  · rintro p _ t ⟨rfl, hg⟩ hh
    by_cases hp : p = S.kp
    · subst hp
      cases hh.unique S.hop2
      exact ⟨S.q', S.q', .refl _, ⟨rfl, S.hgoodT _ _ _ S.ht2⟩, .of_hop S.hop1 S.hreach⟩
    · have hh1 := (NodeSim.hop_iff (S.hnodes p hg hp) (fun _ _ => S.htarget _ _) t).1 hh
      exact ⟨t, t, .refl _, ⟨rfl, S.good_of_hop hh1⟩, .of_hop hh1 (.refl _)⟩

theorem chase_bwd : ∀ (h : Nat) (p e : Pos), S.Good p → chase S.b2 h p = some e → ∃ h', chase S.b1 h' p = some e := by
  intro h p e hg hc
  obtain ⟨k, _, hy, rfl, _⟩ := S.chase_bwd_same h p p e ⟨rfl, hg⟩ hc
  exact ⟨k, hy⟩

/-- the hop bound suffices for every chain of `b` that ends at all (about a bundle, not about `S`; so are `AdequateOn`
    and `adequate_of_targets`) -/
def Adequate (b : Bundle) (hops : Nat) : Prop := ∀ h p e, chase b h p = some e → chase b hops p = some e

def AdequateOn (Q : Pos → Prop) (b : Bundle) (hops : Nat) : Prop :=
  ∀ h p e, Q p → chase b h p = some e → chase b hops p = some e

theorem Adequate.on {b : Bundle} {hops : Nat} (h : Adequate b hops) (Q : Pos → Prop) : AdequateOn Q b hops :=
  fun h' p e _ hc => h h' p e hc

theorem adequate_of_targets {b : Bundle} {n : Nat}
    (h : ∀ doc s q, b.target doc s = some q → ∃ e, chase b n q = some e) : Adequate b (n + 1) := by
  intro k p e hc
  cases k with
  | zero => simp [chase] at hc
  | succ k =>
    rcases chase_succ_iff.1 hc with ⟨he, rfl⟩ | ⟨t, hh, hc⟩
    · exact chase_end he n
    · have ⟨_, _, _, ht⟩ := hh
      obtain ⟨e', he'⟩ := h _ _ _ ht
      rw [chase_hop hh, he']
      -- both chases start at `t`: compare them under the bound `max n k`
      exact (chase_le he' (Nat.le_max_left n k)).symm.trans (chase_le hc (Nat.le_max_right n k))

theorem chase_eq (hops : Nat) (had : Adequate S.b1 hops) (p : Pos) (hg : S.Good p) :
    chase S.b2 hops p = chase S.b1 hops p := by
  cases hc : chase S.b1 hops p with
  | some e => exact S.chase_fwd hops p e hg hc
  | none =>
    cases hc2 : chase S.b2 hops p with
    | none => rfl
    | some e =>
      obtain ⟨h', hh'⟩ := S.chase_bwd hops p e hg hc2
      cases hc.symm.trans (had h' p e hh')

/-- so that steps can be chained -/
theorem adequateOn_preserved (hops : Nat) (had : AdequateOn S.Good S.b1 hops) : AdequateOn S.Good S.b2 hops := by
  intro h p e hg hc
  obtain ⟨h', hh'⟩ := S.chase_bwd h p e hg hc
  exact S.chase_fwd hops p e hg (had h' p e hg hh')

theorem retarget_preserves_on (hops : Nat) (had : AdequateOn S.Good S.b1 hops) :
    ∀ n p, S.Good p → unfold S.b1 hops n p = unfold S.b2 hops n p := by
  intro n p hg
  refine bisim_of_sim (R := S.Same) (S.chase_fwd_same hops) ?_ ?_ n p p ⟨rfl, hg⟩
  · rintro p _ y ⟨rfl, hg⟩ hc
    obtain ⟨k, hk⟩ := S.chase_bwd hops p y hg hc
    exact ⟨y, had k p y hg hk⟩
  · rintro x _ a c ⟨rfl, hg⟩ ha hc hra _
    have hne : x ≠ S.kp := fun e => S.hop1.not_ends (e ▸ ⟨a, ha, hra⟩)
    exact NodeSim.nodesOK (S.hnodes x hg hne) ha hc (Kids.mono (S.hgoodC x a hg hne ha) fun _ h => ⟨rfl, h⟩)

theorem retarget_preserves (hops : Nat) (had : Adequate S.b1 hops) :
    ∀ n p, S.Good p → unfold S.b1 hops n p = unfold S.b2 hops n p :=
  S.retarget_preserves_on hops (had.on _)

end RSetting
end Proofs.Retarget
