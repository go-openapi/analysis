import Verif.Proofs.MixinLoop

/-!
  C17: the number of reports is the number `expectedWarnings` of the specification.  In each of nine
  categories of keys (the five keyed sections, the extensions of the document, of `info`, `info.contact`
  and `info.license`) the keys present in the accumulated document are those the documents seen so far
  offered (`Cover`); so what an iteration reports in the category (`CatStep`) is what the mixin adds to
  the collisions the specification counts (`catStep_inv`).  The duplicates of `tags` and `security`
  are counted through the lengths of the two arrays (`WInv.count`, `listCollisions_add`).
-/

namespace Proofs.Mixin
open J Spec.Mixin

theorem collisionsFrom_snoc (seen : List String) (l : List (List String)) (ks : List String) :
    collisions.collisionsFrom seen (l ++ [ks]) =
      collisions.collisionsFrom seen l + (ks.filter (seen ++ l.flatten).contains).length := by
  induction l generalizing seen with
  | nil => simp [collisions.collisionsFrom]
  | cons a l ih =>
    simp only [List.cons_append, collisions.collisionsFrom, ih, List.flatten_cons, List.append_assoc]
    omega

theorem collisions_snoc (l : List (List String)) (ks : List String) :
    collisions (l ++ [ks]) = collisions l + (ks.filter l.flatten.contains).length := by
  cases l with
  | nil =>
    have e : ks.filter ([] : List String).contains = [] := List.filter_eq_nil_iff.2 fun _ _ => by simp
    simp [collisions, collisions.collisionsFrom, e]
  | cons a l => simp only [List.cons_append, collisions, collisionsFrom_snoc, List.flatten_cons]

def Cover (P : String → Bool) (cur seen : List String) : Prop :=
  ∀ k, P k = true → (k ∈ cur ↔ k ∈ seen)

theorem cover_filter {P : String → Bool} {cur seen : List String} (h : Cover P cur seen)
    (ks : List String) (hks : ∀ k ∈ ks, P k = true) : ks.filter cur.contains = ks.filter seen.contains := by
  apply List.filter_congr
  intro k hk
  rw [Bool.eq_iff_iff, List.contains_iff_mem, List.contains_iff_mem]
  exact h k (hks k hk)

/-- one iteration seen from one category of keys: `cur`/`cur'` are the keys present before/after,
    `gm` the keys the mixin offers and `n` the number of reports -/
structure CatStep (P : String → Bool) (cur cur' gm : List String) (n : Nat) : Prop where
  cnt : n = (gm.filter cur.contains).length
  cov : ∀ k, P k = true → (k ∈ cur' ↔ k ∈ cur ∨ k ∈ gm)

/-- `off d` are the keys the document `d` offers in the category -/
theorem catStep_inv {P : String → Bool} {cur cur' : List String} {n : Nat} (off : J → List String)
    {ds : List J} {m : J} (hc : Cover P cur (ds.map off).flatten) (hg : ∀ k ∈ off m, P k = true)
    (hs : CatStep P cur cur' (off m) n) :
    Cover P cur' ((ds ++ [m]).map off).flatten ∧
      collisions ((ds ++ [m]).map off) = collisions (ds.map off) + n := by
  rw [List.map_append]
  constructor
  · intro k hk
    rw [hs.cov k hk, hc k hk]
    simp
  · rw [List.map_cons, List.map_nil, collisions_snoc, hs.cnt, cover_filter hc _ hg]

theorem contains_keys (pk : List (String × J)) :
    (pk.map (·.1)).contains = fun k => (lookup k pk).isSome := by
  funext k
  rw [Bool.eq_iff_iff, List.contains_iff_mem, lookup_isSome_iff]

theorem fw_catStep (P : String → Bool) (pk mk : List (String × J))
    (hnd : ((mk.filter fun kv => P kv.1).map (·.1)).Nodup) (cur' : List String)
    (hcur' : cur' = (fw P pk mk).1.map (·.1)) :
    CatStep P (pk.map (·.1)) cur' ((mk.filter fun kv => P kv.1).map (·.1)) (fw P pk mk).2.length where
  cnt := by rw [fw_warns P pk mk hnd, contains_keys]
  cov := by
    intro k _
    rw [hcur', ← lookup_isSome_iff, ← lookup_isSome_iff, fw_isSome]

theorem lvl_catStep {fields : List String} {po mo po' : Option J} {w : List Mixin.Warn}
    (l : Lvl fields po mo po' w) (ho : optObj po = true) (hnd : (extKeysOf mo).Nodup) :
    CatStep isExtKey (keysO po) (keysO po') (extKeysOf mo) w.length where
  cnt := l.warns ho hnd
  cov := l.ext ho

theorem extKeysOf_ext (o : Option J) : ∀ k ∈ extKeysOf o, isExtKey k = true := by
  intro k hk; exact ((mem_extKeysOf o k).1 hk).2

/-- not `sectionKeys`: the keys of section `s` of `d` -/
def sectKeys (s : String) (d : J) : List String := (sectionOf s d).map (·.1)

def keyColl (ds : List J) : Nat :=
  collisions (ds.map (sectKeys "paths")) + collisions (ds.map (sectKeys "definitions"))
  + collisions (ds.map (sectKeys "parameters")) + collisions (ds.map (sectKeys "responses"))
  + collisions (ds.map (sectKeys "securityDefinitions"))
  + collisions (ds.map fun d => extKeysOf (some d))
  + collisions (ds.map fun d => extKeysOf (info d))
  + collisions (ds.map fun d => extKeysOf (sub "contact" (info d)))
  + collisions (ds.map fun d => extKeysOf (sub "license" (info d)))

theorem expectedWarnings_eq (ds : List J) :
    expectedWarnings ds = keyColl ds + listCollisions "tags" sameTag ds + listCollisions "security" (· == ·) ds := by
  have e : ∀ s, sectKeys s = fun d => (sectionOf s d).map (·.1) := fun s => rfl
  simp only [expectedWarnings, keyedSections, keyColl, e, List.map_cons, List.map_nil, List.sum_cons,
    List.sum_nil]
  omega

theorem listCollisions_add (k : String) (same : J → J → Bool) (ds : List J) :
    listCollisions k same ds + (expectedList k same ds).length = (ds.flatMap (·.getArr k)).length := by
  cases ds with
  | nil => rfl
  | cons p ms =>
    simp only [listCollisions, expectedList, List.flatMap_cons, List.length_append]
    have h1 := appendNew_length same (p.getArr k) (ms.flatMap (·.getArr k))
    have h2 := unionNew_length_ge same (p.getArr k) (ms.flatMap (·.getArr k))
    omega

/-- `C17.DistinctKeys`, bundled; here and below 0 is the document, 1 `info`, 2 `info.contact`, 3 `info.license` -/
structure DistinctKeys (m : J) : Prop where
  sect : ∀ s ∈ keyedSections, (sectKeys s m).Nodup
  ext0 : (extKeysOf (some m)).Nodup
  ext1 : (extKeysOf (info m)).Nodup
  ext2 : (extKeysOf (sub "contact" (info m))).Nodup
  ext3 : (extKeysOf (sub "license" (info m))).Nodup

/-- `C17.warnings_count` derives it from `C17.objAlong` -/
structure InfoShaped (d : J) : Prop where
  info : optObj (info d) = true
  contact : optObj (sub "contact" (Spec.Mixin.info d)) = true
  license : optObj (sub "license" (Spec.Mixin.info d)) = true

structure WInv (ds : List J) (st : Mixin.St) : Prop where
  shape : InfoShaped st.doc
  covS : ∀ s ∈ keyedSections, Cover (secP s) ((st.doc.getObj s).map (·.1)) (ds.map (sectKeys s)).flatten
  cov0 : Cover isExtKey (keysO (some st.doc)) (ds.map fun d => extKeysOf (some d)).flatten
  cov1 : Cover isExtKey (keysO (info st.doc)) (ds.map fun d => extKeysOf (info d)).flatten
  cov2 : Cover isExtKey (keysO (sub "contact" (info st.doc)))
    (ds.map fun d => extKeysOf (sub "contact" (info d))).flatten
  cov3 : Cover isExtKey (keysO (sub "license" (info st.doc)))
    (ds.map fun d => extKeysOf (sub "license" (info d))).flatten
  count : st.warns.length + (st.doc.getArr "tags").length + (st.doc.getArr "security").length =
    keyColl ds + (ds.flatMap (·.getArr "tags")).length + (ds.flatMap (·.getArr "security")).length

theorem sectKeys_eq (s : String) (d : J) :
    sectKeys s d = ((d.getObj s).filter fun kv => secP s kv.1).map (·.1) := by
  unfold sectKeys; rw [sectionOf_eq]

theorem sectKeys_mem (s : String) (d : J) : ∀ k ∈ sectKeys s d, secP s k = true := by
  intro k hk
  rw [sectKeys_eq] at hk
  simp only [List.mem_map, List.mem_filter] at hk
  obtain ⟨kv, ⟨_, h⟩, rfl⟩ := hk
  exact h

theorem cover_single {P : String → Bool} {cur gm : List String} (h : ∀ k, P k = true → (k ∈ cur ↔ k ∈ gm)) :
    Cover P cur ([gm] : List (List String)).flatten := by
  simpa [Cover] using h

theorem extCover_single (o : Option J) : Cover isExtKey (keysO o) ([extKeysOf o] : List (List String)).flatten :=
  cover_single fun k hk => by rw [mem_extKeysOf]; simp [hk]

theorem sect_catStep {f : Facts} {i : Nat} {st : Mixin.St} {m p1 : J} {w1 : List Mixin.Warn} {st' : Mixin.St}
    (sf : StepFacts f i st m p1 w1 st') (hd : DistinctKeys m) (s : String) (hs : s ∈ keyedSections) :
    CatStep (secP s) ((st.doc.getObj s).map (·.1)) ((st'.doc.getObj s).map (·.1)) (sectKeys s m)
      (fw (secP s) (st.doc.getObj s) (m.getObj s)).2.length := by
  have hnd := hd.sect s hs
  rw [sectKeys_eq] at hnd ⊢
  exact fw_catStep _ _ _ hnd _ (keys_eq_of_map_eq (g := fun _ => ()) (sf.sect (fun _ => ()) s hs fun _ _ _ => rfl))

theorem winv_step {f : Facts} {i : Nat} {st : Mixin.St} {m p1 : J} {w1 : List Mixin.Warn} {st' : Mixin.St}
    (ds : List J) (ho : st.doc.isObj = true) (hinv : WInv ds st) (hq : InfoShaped m ∧ DistinctKeys m)
    (sf : StepFacts f i st m p1 w1 st') : WInv (ds ++ [m]) st' := by
  obtain ⟨hsh, hd⟩ := hq
  obtain ⟨w0, wi, wc, wl, hw, l0, l1, l23⟩ := sf.props.lvls
  -- the stages after `mergeSwaggerProps` leave `info` and the extension keys alone
  rw [← show info st'.doc = info p1 from sf.top "info" (by simp [sectionKeys])] at l1 l23
  obtain ⟨l2, l3⟩ := l23 hinv.shape.info
  have c0 : CatStep isExtKey (keysO (some st.doc)) (keysO (some st'.doc)) (extKeysOf (some m)) w0.length := by
    have c := lvl_catStep l0 ho hd.ext0
    refine ⟨c.cnt, fun k hk => ?_⟩
    rw [← c.cov k hk, mem_keysO_some, mem_keysO_some,
      sf.top k fun hm => Bool.false_ne_true ((sectionKeys_plain k hm).symm.trans hk)]
  have r0 := catStep_inv (fun d => extKeysOf (some d)) hinv.cov0 (extKeysOf_ext _) c0
  have r1 := catStep_inv (fun d => extKeysOf (info d)) hinv.cov1 (extKeysOf_ext _)
    (lvl_catStep l1 hinv.shape.info hd.ext1)
  have r2 := catStep_inv (fun d => extKeysOf (sub "contact" (info d))) hinv.cov2 (extKeysOf_ext _)
    (lvl_catStep l2 hinv.shape.contact hd.ext2)
  have r3 := catStep_inv (fun d => extKeysOf (sub "license" (info d))) hinv.cov3 (extKeysOf_ext _)
    (lvl_catStep l3 hinv.shape.license hd.ext3)
  have rS : ∀ s (hs : s ∈ keyedSections), _ := fun s hs =>
    catStep_inv (sectKeys s) (hinv.covS s hs) (sectKeys_mem s m) (sect_catStep sf hd s hs)
  refine ⟨⟨l1.obj hinv.shape.info hsh.info, l2.obj hinv.shape.contact hsh.contact,
    l3.obj hinv.shape.license hsh.license⟩, fun s hs => (rS s hs).1, r0.1, r1.1, r2.1, r3.1, ?_⟩
  have hc := hinv.count
  simp only [keyedSections, List.forall_mem_cons, List.not_mem_nil, false_imp_iff, implies_true, and_true] at rS
  obtain ⟨⟨-, rP⟩, ⟨-, rD⟩, ⟨-, rPa⟩, ⟨-, rR⟩, ⟨-, rSD⟩⟩ := rS
  rw [secP_paths] at rP
  rw [secP_ne (by simp)] at rD rPa rR rSD
  unfold keyColl at hc ⊢
  rw [rP, rD, rPa, rR, rSD, r0.2, r1.2, r2.2, r3.2, sf.warns, hw]
  simp only [List.flatMap_append, List.flatMap_cons, List.flatMap_nil, List.append_nil, List.length_append]
  -- the equations just used would be collected again by `omega`, which compares all their terms
  clear r0 r1 r2 r3 rP rD rPa rR rSD
  omega

theorem winv_init (p : J) (hp : p.isObj = true) (hsh : InfoShaped p) (ids : List String) :
    WInv [p] { doc := Mixin.initPrimary p, ids := ids, warns := [] } := by
  have g : ∀ k, k ≠ "paths" → (Mixin.initPrimary p).get? k = p.get? k := initPrimary_get?_ne p
  have einfo : info (Mixin.initPrimary p) = info p := g "info" (by simp)
  refine ⟨⟨einfo ▸ hsh.info, einfo ▸ hsh.contact, einfo ▸ hsh.license⟩,
    fun s _ => cover_single fun k hk => ?_, cover_single fun k hk => ?_,
    einfo ▸ extCover_single _, einfo ▸ extCover_single _, einfo ▸ extCover_single _, ?_⟩
  · rw [initPrimary_getObj p hp, sectKeys_eq, ← lookup_isSome_iff, ← lookup_isSome_iff, lookup_filter_pos _ _ _ hk]
  · rw [mem_extKeysOf, mem_keysO_some, mem_keysO_some,
      g k fun e => Bool.false_ne_true ((sectionKeys_plain k (e ▸ by simp [sectionKeys])).symm.trans hk)]
    simp [hk]
  · simp only [keyColl, List.map_cons, List.map_nil, collisions, collisions.collisionsFrom, List.flatMap_cons,
      List.flatMap_nil, List.append_nil, List.length_nil]
    rw [getArr_congr _ _ _ (g "tags" (by simp)), getArr_congr _ _ _ (g "security" (by simp))]

theorem mixin_warnings (f : Facts) (p : J) (ms : List J) (r : J × List Mixin.Warn)
    (hp : p.isObj = true) (hr : Mixin.mixin f p ms = .ok r)
    (hsh : ∀ d ∈ p :: ms, InfoShaped d) (hd : ∀ m ∈ ms, DistinctKeys m) :
    r.2.length = expectedWarnings (p :: ms) := by
  obtain ⟨st', e, hinv⟩ := mixin_inv f (fun _ ds st => WInv ds st) (fun m => InfoShaped m ∧ DistinctKeys m)
    (fun _ ds _ _ _ _ _ => winv_step ds) p ms r hp hr
    (fun m hm => ⟨hsh m (by simp [hm]), hd m hm⟩)
    (winv_init p hp (hsh p (by simp)) _)
  have hl := mixin_lists f p ms r hp hr
  have hc := hinv.count
  rw [e] at hl ⊢
  simp only at hl ⊢
  rw [hl.tags, hl.security] at hc
  have t := listCollisions_add "tags" sameTag (p :: ms)
  have s := listCollisions_add "security" (· == ·) (p :: ms)
  rw [expectedWarnings_eq]
  omega

end Proofs.Mixin
