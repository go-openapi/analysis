import Verif.Proofs.Inline

/-!
  The import move (`importNewRef`, `importKnownRef`): a definition of another document is copied into the root under a
  fresh local name, and the `$ref`s that designated the remote definition are pointed at the copy — in the root and, in
  later rounds, inside the copy itself.

  On bundles, as a bisimulation given by *local* conditions on nodes: `Rel` relates every position of the domain to
  itself and `src ++ t` to `nd ++ t`; related positions hold nodes of the same shape that are `$ref`s together, and
  their `$ref`s designate related positions.  Then related positions denote the same tree.
-/

namespace Proofs.ImportMove
open J Spec.Meaning _root_.Cert Proofs.Bisim Proofs.Retarget Proofs.Inline

/-- `src`: the remote definition, `nd`: its copy in the root -/
structure MSetting where
  b1 : Bundle
  b2 : Bundle
  src : Pos
  nd : Pos
  Dom : Pos → Prop
  /-- the related paths below `src` and `nd` (the members of a `$ref` node are never looked at) -/
  CDom : List String → Prop

namespace MSetting
variable (S : MSetting)

def Rel (p q : Pos) : Prop := (p = q ∧ S.Dom p) ∨ (∃ t, S.CDom t ∧ p = ext S.src t ∧ q = ext S.nd t)

def TargetsRel (p q : Pos) (ra rc : String) : Prop :=
  match S.b1.target p.1 ra, S.b2.target q.1 rc with
  | none, none => True
  | some t1, some t2 => S.Rel t1 t2
  | _, _ => False

def NodeRel (p q : Pos) : Prop :=
  match S.b1.node p, S.b2.node q with
  | none, none => True
  | some a, some c =>
    ShapeEq a c ∧ (Doc.refStr a = "" ↔ Doc.refStr c = "") ∧ (Doc.refStr a ≠ "" → S.TargetsRel p q (Doc.refStr a) (Doc.refStr c))
  | _, _ => False

structure Local : Prop where
  hid : ∀ p, S.Dom p → S.NodeRel p p
  hcopy : ∀ t, S.CDom t → S.NodeRel (ext S.src t) (ext S.nd t)
  hcopyC : ∀ t a, S.CDom t → S.b1.node (ext S.src t) = some a → Doc.refStr a = "" →
    (∀ kvs, a = .obj kvs → ∀ key ∈ (visible kvs).map (·.1), S.CDom (t ++ [key])) ∧
    (∀ xs, a = .arr xs → ∀ i : Nat, S.CDom (t ++ [toString i]))
  hdomC : ∀ x a, S.Dom x → S.b1.node x = some a → Doc.refStr a = "" →
    (∀ kvs, a = .obj kvs → ∀ key ∈ (visible kvs).map (·.1), S.Dom (child x key)) ∧
    (∀ xs, a = .arr xs → ∀ i : Nat, S.Dom (child x (toString i)))
  -- `hcopyC`, `hdomC`: `Kids`, as in `RSetting`

variable {S}

theorem nodeRel_of_rel (hl : S.Local) {p q : Pos} (h : S.Rel p q) : S.NodeRel p q := by
  rcases h with ⟨rfl, hd⟩ | ⟨t, ht, rfl, rfl⟩
  · exact hl.hid p hd
  · exact hl.hcopy t ht

theorem nodeRel_same {p : Pos} (hn : S.b2.node p = S.b1.node p) (ht : ∀ s, S.b2.target p.1 s = S.b1.target p.1 s)
    (hr : ∀ s t, S.b1.target p.1 s = some t → S.Rel t t) : S.NodeRel p p := by
  unfold NodeRel
  rw [hn]
  cases S.b1.node p with
  | none => trivial
  | some a =>
    refine ⟨shapeEq_refl a, Iff.rfl, fun _ => ?_⟩
    unfold TargetsRel
    rw [ht]
    cases h : S.b1.target p.1 (Doc.refStr a) with
    | none => trivial
    | some t => exact hr _ t h

theorem nodeRel_local {p q : Pos} (h : S.NodeRel p q) :
    (Ends S.b1 p ↔ Ends S.b2 q) ∧ (∀ t, Hop S.b1 p t → ∃ t2, Hop S.b2 q t2 ∧ S.Rel t t2) ∧
      ∀ t2, Hop S.b2 q t2 → ∃ t, Hop S.b1 p t ∧ S.Rel t t2 := by
  unfold NodeRel at h
  cases h1 : S.b1.node p <;> cases h2 : S.b2.node q <;> simp only [h1, h2] at h
  · simp [Ends, Hop, h1, h2]
  · rename_i a c
    obtain ⟨_, hiff, htg⟩ := h
    refine ⟨by simp [Ends, h1, h2, hiff], ?_, ?_⟩
    · rintro t ⟨_, ha, hra, hta⟩
      cases h1.symm.trans ha
      have ht := htg hra
      unfold TargetsRel at ht
      rw [hta] at ht
      cases ht2 : S.b2.target q.1 (Doc.refStr c) with
      | none => rw [ht2] at ht; exact ht.elim
      | some t2 => rw [ht2] at ht; exact ⟨t2, ⟨c, h2, mt hiff.2 hra, ht2⟩, ht⟩
    · rintro t2 ⟨_, hc, hrc, htc⟩
      cases h2.symm.trans hc
      have hra := mt hiff.1 hrc
      have ht := htg hra
      unfold TargetsRel at ht
      rw [htc] at ht
      cases ht1 : S.b1.target p.1 (Doc.refStr a) with
      | none => rw [ht1] at ht; exact ht.elim
      | some t => rw [ht1] at ht; exact ⟨t, ⟨a, h1, hra, ht1⟩, ht⟩

theorem chase_fwd (hl : S.Local) : ∀ (h : Nat) (p q x : Pos), S.Rel p q → chase S.b1 h p = some x →
    ∃ y, chase S.b2 h q = some y ∧ S.Rel x y := by
  refine chase_sim (s := 0) ?_ ?_
  · intro p q hr he
    exact ⟨q, chase_end ((nodeRel_local (nodeRel_of_rel hl hr)).1.1 he) 0, hr⟩
  · intro p q t hr hh
    obtain ⟨t2, hh2, hr2⟩ := (nodeRel_local (nodeRel_of_rel hl hr)).2.1 t hh
    exact ⟨t, t2, .refl _, hr2, Or.inl hh2⟩

theorem chase_bwd (hl : S.Local) : ∀ (h : Nat) (p q y : Pos), S.Rel p q → chase S.b2 h q = some y →
    ∃ x, chase S.b1 h p = some x ∧ S.Rel x y := by
  intro h p q y
  refine chase_sim (s := 0) (R := fun q p => S.Rel p q) ?_ ?_ h q p y
  · intro q p hr he
    exact ⟨p, chase_end ((nodeRel_local (nodeRel_of_rel hl hr)).1.2 he) 0, hr⟩
  · intro q p t2 hr hh
    obtain ⟨t, hh1, hr1⟩ := (nodeRel_local (nodeRel_of_rel hl hr)).2.2 t2 hh
    exact ⟨t2, t, .refl _, hr1, Or.inl hh1⟩

/-- no adequacy hypothesis: the two chases take the same number of hops -/
theorem import_preserves (hl : S.Local) (hops : Nat) :
    ∀ n p q, S.Rel p q → unfold S.b1 hops n p = unfold S.b2 hops n q := by
  refine bisim_of_sim (chase_fwd hl hops) ?_ ?_
  · intro p q y hr hc
    obtain ⟨x, hx, _⟩ := chase_bwd hl hops p q y hr hc
    exact ⟨x, hx⟩
  · intro x y a c hr ha hc hra _
    have hn := nodeRel_of_rel hl hr
    unfold NodeRel at hn
    rw [ha, hc] at hn
    refine nodesOK_of_shapeEq hn.1 ?_
    rcases hr with ⟨rfl, hd⟩ | ⟨t, ht, rfl, rfl⟩
    · exact Kids.mono (hl.hdomC x a hd ha hra) fun _ h => Or.inl ⟨rfl, h⟩
    · exact Kids.mono (hl.hcopyC t a ht ha hra) fun k h => Or.inr ⟨t ++ [k], h, ext_child _ _ _, ext_child _ _ _⟩

end MSetting
end Proofs.ImportMove
