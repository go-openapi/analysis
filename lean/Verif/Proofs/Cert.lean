import Verif.Proofs.Bisim
import Verif.Proofs.JsonLemmas

/-!
  What `Cert.pairOK` accepts is a step of the bisimulation of `Proofs.Bisim`, the list as relation (`stepOK_of_pairOK`);
  the soundness of the checker is `C01.cert_sound` (Properties/C01.lean).
-/

namespace Proofs.Cert
open J Spec.Meaning _root_.Cert Proofs.Bisim

theorem posEq_iff (a b : Pos) : posEq a b = true ↔ a = b := by
  rcases a with ⟨a1, a2⟩
  rcases b with ⟨b1, b2⟩
  simp [posEq]

theorem has_iff (R : Rel) (p q : Pos) : R.has p q = true ↔ (p, q) ∈ R := by
  unfold Rel.has
  simp only [List.any_eq_true, Bool.and_eq_true, posEq_iff]
  constructor
  · rintro ⟨⟨a, b⟩, hm, rfl, rfl⟩
    exact hm
  · intro h
    exact ⟨(p, q), h, rfl, rfl⟩

theorem nodesOK_of_kidsOf {b1 b2 : Bundle} {p q : Pos} {kids : List (Pos × Pos)} {R : Pos → Pos → Prop}
    (hk : kidsOf b1 b2 p q = some kids) (hall : ∀ pq ∈ kids, R pq.1 pq.2) :
    match b1.node p, b2.node q with
    | some a, some c => NodesOK R p q a c
    | _, _ => False := by
  revert hk
  fun_cases kidsOf b1 b2 p q with
  | case1 k1 k2 hn2 hn1 v1 v2 hv =>
    rintro ⟨⟩
    simp only [hn1, hn2]
    exact ⟨hv, fun k hkm => hall _ (List.mem_map.2 ⟨k, hkm, rfl⟩)⟩
  | case3 x1 x2 hn2 hn1 hl =>
    rintro ⟨⟩
    simp only [hn1, hn2]
    exact ⟨hl, fun i hi => hall _ (List.mem_map.2 ⟨i, hi, rfl⟩)⟩
  | case5 a c hno hna hn2 hn1 hs =>
    intro _
    simp only [Bool.and_eq_true, beq_iff] at hs
    simp only [hn1, hn2]
    unfold NodesOK
    split
    · exact (hno _ _ rfl rfl).elim
    · exact (hna _ _ rfl rfl).elim
    · exact ⟨hs.1.1, hs.1.2, hs.2⟩
  | case2 | case4 | case6 | case7 => nofun

theorem stepOK_of_pairOK {b1 b2 : Bundle} {hops : Nat} {R : Rel} {p q : Pos} (h : pairOK b1 b2 hops R p q = true) :
    StepOK b1 b2 hops hops (fun p q => R.has p q = true) p q := by
  revert h
  unfold StepOK
  fun_cases pairOK b1 b2 hops R p q with
  | case1 hc2 hc1 => intro _; simp only [hc1, hc2]
  | case2 p' q' hc2 hc1 kids hk =>
    intro h
    simp only [hc1, hc2]
    exact nodesOK_of_kidsOf hk fun pq hpq => List.all_eq_true.1 h pq hpq
  | case3 | case4 => nofun

end Proofs.Cert
