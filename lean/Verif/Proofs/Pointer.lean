import Verif.Proofs.IndexSchema
import Verif.Proofs.SetAt

/-!
  What C12, C04 and C02 share: the hypothesis `C12.NodupKeys`, which passes along every step of JSON-pointer
  resolution, and the schema traversal `Spec.Index.schemasAt` written with `flatMap`s.  Namespace `C12` holds
  `NodupKeys` and its lemmas; `PointerProof` begins in StrLemmas.lean and SetAt.lean.
-/

namespace C12

/-- every JSON object of the document has distinct keys (it came out of a Go map) -/
inductive NodupKeys : J → Prop
  | null : NodupKeys .null
  | bool (b) : NodupKeys (.bool b)
  | num (n) : NodupKeys (.num n)
  | str (s) : NodupKeys (.str s)
  | arr (xs) : (∀ x ∈ xs, NodupKeys x) → NodupKeys (.arr xs)
  | obj (kvs) : (kvs.map (·.1)).Nodup → (∀ kv ∈ kvs, NodupKeys kv.2) → NodupKeys (.obj kvs)

theorem NodupKeys.obj_inv {kvs : List (String × J)} (h : NodupKeys (.obj kvs)) :
    (kvs.map (·.1)).Nodup ∧ ∀ kv ∈ kvs, NodupKeys kv.2 := by
  cases h with | obj _ h1 h2 => exact ⟨h1, h2⟩

theorem NodupKeys.arr_inv {xs : List J} (h : NodupKeys (.arr xs)) : ∀ x ∈ xs, NodupKeys x := by
  cases h with | arr _ h1 => exact h1

open J PointerProof

/-- `NodupKeys` is the largest predicate with the two inversion properties -/
theorem NodupKeys.of_inv (P : J → Prop)
    (hobj : ∀ kvs, P (.obj kvs) → (kvs.map (·.1)).Nodup ∧ ∀ kv ∈ kvs, P kv.2)
    (harr : ∀ xs, P (.arr xs) → ∀ x ∈ xs, P x) : ∀ j, P j → NodupKeys j := by
  intro j
  induction j using strongInduction with
  | h j ih =>
    intro h
    cases j with
    | obj kvs =>
      exact .obj _ (hobj kvs h).1 fun kv hkv => ih _ (sizeOf_obj_mem hkv) ((hobj kvs h).2 kv hkv)
    | arr xs => exact .arr _ fun x hx => ih _ (sizeOf_arr_mem hx) (harr xs h x hx)
    | _ => constructor

theorem NodupKeys.step {j : J} (h : NodupKeys j) {t : String} {c : J} (hs : Spec.Pointer.step j t = some c) :
    NodupKeys c := by
  cases j with
  | obj kvs => exact h.obj_inv.2 _ (lookup_mem hs)
  | arr xs =>
    obtain ⟨i, _, hi⟩ := Option.bind_eq_some_iff.1 hs
    exact h.arr_inv _ (List.mem_of_getElem? hi)
  | _ => cases hs

theorem NodupKeys.get? {j : J} (h : NodupKeys j) {k : String} {v : J} (hv : j.get? k = some v) : NodupKeys v :=
  h.step (step_of_get? hv)

theorem NodupKeys.getObj {j : J} (h : NodupKeys j) (k : String) :
    ((j.getObj k).map (·.1)).Nodup ∧ ∀ kv ∈ j.getObj k, NodupKeys kv.2 := by
  unfold J.getObj
  split
  · exact (h.get? ‹_›).obj_inv
  · simp

theorem NodupKeys.getArr {j : J} (h : NodupKeys j) (k : String) : ∀ x ∈ j.getArr k, NodupKeys x := by
  intro x hx
  obtain ⟨xs, hg, e⟩ := getArr_of_mem hx
  exact (h.get? hg).arr_inv x (e ▸ hx)

end C12

namespace PointerProof
open J Spec.Index IndexProof C12

theorem getElem?_of_mem_indexed {α} {xs : List α} {ip : Nat × α} (h : ip ∈ Spec.Index.indexed xs) :
    xs[ip.1]? = some ip.2 := by
  obtain ⟨xn, hxn, rfl⟩ := List.mem_map.1 h
  exact List.mem_zipIdx_iff_getElem?.1 hxn

theorem mapKids_flatMap (toks : List String) (kvs : List (String × J)) :
    mapKids toks kvs = kvs.flatMap fun kv => schemasAt (toks ++ [kv.1]) kv.2 := by
  induction kvs with
  | nil => rfl
  | cons kv rest ih => exact congrArg (schemasAt (toks ++ [kv.1]) kv.2 ++ ·) ih

theorem arrKids_flatMap (toks : List String) (i : Nat) (xs : List J) :
    arrKids toks i xs = (xs.zipIdx i).flatMap fun xn => schemasAt (toks ++ [toString xn.2]) xn.1 := by
  induction xs generalizing i with
  | nil => rfl
  | cons x rest ih => exact congrArg (schemasAt (toks ++ [toString i]) x ++ ·) (ih (i + 1))

theorem schemasAt_obj (toks : List String) (kvs : List (String × J)) :
    schemasAt toks (.obj kvs) = (toks, .obj kvs) :: kvs.flatMap fun kv => kidOf toks kv.1 kv.2 := by
  refine congrArg ((toks, J.obj kvs) :: ·) ?_
  induction kvs with
  | nil => rfl
  | cons kv rest ih => rw [kids_cons, ih]; rfl

/-- `IndexProof.field_cases`, the specification's side, with the `flatMap` forms -/
theorem kidOf_cases (toks : List String) (k : String) (v : J) :
    (mapKeywords.contains k = true ∧ ∃ m, v = .obj m ∧
      kidOf toks k v = m.flatMap fun kv => schemasAt (toks ++ [k] ++ [kv.1]) kv.2) ∨
    ((arrKeywords.contains k = true ∨ k = "items") ∧ ∃ xs, v = .arr xs ∧
      kidOf toks k v = (xs.zipIdx 0).flatMap fun xn => schemasAt (toks ++ [k] ++ [toString xn.2]) xn.1) ∨
    ((k = "not" ∨ k = "additionalProperties" ∨ k = "additionalItems" ∨ k = "items") ∧
      ∃ m, v = .obj m ∧ kidOf toks k v = schemasAt (toks ++ [k]) v) ∨
    kidOf toks k v = [] := by
  -- the analyzer's half of `field_cases` is not used: any key will do
  rcases field_cases "" toks k v with ⟨hk, m, hv, _, e⟩ | ⟨hk, xs, hv, _, e⟩ | ⟨⟨hk, m, hv⟩, _, e⟩ | ⟨_, e⟩
  · exact .inl ⟨hk, m, hv, e.trans (mapKids_flatMap _ m)⟩
  · exact .inr (.inl ⟨hk, xs, hv, e.trans (arrKids_flatMap _ 0 xs)⟩)
  · exact .inr (.inr (.inl ⟨hk, m, hv, e⟩))
  · exact .inr (.inr (.inr e))

theorem prefix_schemasAt : ∀ (j : J) (toks : List String), ∀ p ∈ schemasAt toks j, toks <+: p.1 := by
  intro j
  induction j using J.strongInduction with
  | h j ih =>
    intro toks p hp
    cases j with
    | obj kvs =>
      rw [schemasAt_obj, List.mem_cons, List.mem_flatMap] at hp
      rcases hp with rfl | ⟨kv, hkv, hp⟩
      · exact List.prefix_refl _
      have hs := sizeOf_obj_mem hkv
      refine (List.prefix_append toks [kv.1]).trans ?_
      rcases kidOf_cases toks kv.1 kv.2 with ⟨_, m, hm, e⟩ | ⟨_, xs, hx, e⟩ | ⟨_, _, _, e⟩ | e <;> rw [e] at hp
      · obtain ⟨kv', hkv', hp⟩ := List.mem_flatMap.1 hp
        rw [hm] at hs
        exact (List.prefix_append _ _).trans (ih _ (Nat.lt_trans (sizeOf_obj_mem hkv') hs) _ p hp)
      · obtain ⟨xn, hxn, hp⟩ := List.mem_flatMap.1 hp
        rw [hx] at hs
        have hmem := List.mem_of_getElem? (List.mem_zipIdx_iff_getElem?.1 hxn)
        exact (List.prefix_append _ _).trans (ih _ (Nat.lt_trans (sizeOf_arr_mem hmem) hs) _ p hp)
      · exact ih _ hs _ p hp
      · cases hp
    | _ => cases hp

theorem prefix_schemaOf (q : Pos) : ∀ p ∈ Spec.Index.schemaOf q, q.1 ++ ["schema"] <+: p.1 := by
  unfold Spec.Index.schemaOf
  split
  · exact prefix_schemasAt _ _
  · exact nofun

end PointerProof
