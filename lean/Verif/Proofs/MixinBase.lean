import Verif.Model.Mixin
import Verif.Spec.Mixin
import Verif.Proofs.JsonLemmas

/-!
  Building blocks for the Mixin proofs (C17, C18): the generic folds the merge is made of (first-wins
  insertion `fw`, de-duplicated append), which entries of a keyed section count (`secP`), and how a
  literal key is shown not to be an extension key.
-/

namespace Proofs.Mixin
open J Spec.Mixin

/-- the generic first-wins fold: entries of `mk` whose key passes `P` are appended to `pk` unless
    their key is already present, in which case the key is reported -/
def fw (P : String → Bool) : List (String × J) → List (String × J) → List (String × J) × List String
  | pk, [] => (pk, [])
  | pk, kv :: mk =>
    if P kv.1 then
      if (lookup kv.1 pk).isSome then ((fw P pk mk).1, kv.1 :: (fw P pk mk).2)
      else fw P (pk ++ [kv]) mk
    else fw P pk mk

def allKeys : String → Bool := fun _ => true

@[simp] theorem fw_nil (P : String → Bool) (pk : List (String × J)) : fw P pk [] = (pk, []) := by
  simp [fw]

theorem fw_cons_skip (P : String → Bool) (pk mk : List (String × J)) (kv : String × J)
    (hP : P kv.1 = false) : fw P pk (kv :: mk) = fw P pk mk := by
  simp [fw, hP]

theorem fw_cons_hit (P : String → Bool) (pk mk : List (String × J)) (kv : String × J)
    (hP : P kv.1 = true) (hs : (lookup kv.1 pk).isSome = true) :
    fw P pk (kv :: mk) = ((fw P pk mk).1, kv.1 :: (fw P pk mk).2) := by
  simp [fw, hP, hs]

theorem fw_cons_new (P : String → Bool) (pk mk : List (String × J)) (kv : String × J)
    (hP : P kv.1 = true) (hs : (lookup kv.1 pk).isSome = false) :
    fw P pk (kv :: mk) = fw P (pk ++ [kv]) mk := by
  simp [fw, hP, hs]

theorem fw_lookup (P : String → Bool) (k : String) (pk mk : List (String × J)) :
    lookup k (fw P pk mk).1 = (lookup k pk).or (lookup k (mk.filter fun kv => P kv.1)) := by
  fun_induction fw P pk mk with
  | case1 pk => simp
  | case2 pk kv mk hP hs ih =>
    -- present already: a second entry under the key changes no lookup
    obtain ⟨k', v'⟩ := kv
    obtain ⟨v, hv⟩ := Option.isSome_iff_exists.1 hs
    simp only [List.filter_cons, hP, if_true, ih, lookup_cons]
    by_cases hk : k' = k
    · subst hk; simp [hv]
    · simp [hk]
  | case3 pk kv mk hP hs ih =>
    obtain ⟨k', v'⟩ := kv
    have hv : lookup k' pk = none := by simpa using hs
    simp only [List.filter_cons, hP, if_true, ih, lookup_append, lookup_cons, lookup_nil]
    by_cases hk : k' = k
    · subst hk; simp [hv]
    · simp [hk]
  | case4 pk kv mk hP ih => simp only [List.filter_cons, hP]; exact ih

theorem fw_prefix (P : String → Bool) (pk mk : List (String × J)) : ∃ t, (fw P pk mk).1 = pk ++ t := by
  fun_induction fw P pk mk with
  | case1 pk => exact ⟨[], by simp⟩
  | case2 pk kv mk hP hs ih => exact ih
  | case3 pk kv mk hP hs ih =>
    obtain ⟨t, ht⟩ := ih
    exact ⟨kv :: t, by rw [ht]; simp⟩
  | case4 pk kv mk hP ih => exact ih

theorem eq_nil_of_fw_isEmpty (P : String → Bool) (pk mk : List (String × J))
    (h : (fw P pk mk).1.isEmpty = true) : pk = [] := by
  obtain ⟨t, ht⟩ := fw_prefix P pk mk
  cases pk <;> simp_all

theorem fw_isSome (P : String → Bool) (k : String) (pk mk : List (String × J)) :
    (lookup k (fw P pk mk).1).isSome = true ↔
      (lookup k pk).isSome = true ∨ k ∈ (mk.filter fun kv => P kv.1).map (·.1) := by
  rw [fw_lookup, ← lookup_isSome_iff]
  cases lookup k pk <;> simp

theorem fw_warns (P : String → Bool) (pk mk : List (String × J))
    (hnd : ((mk.filter fun kv => P kv.1).map (·.1)).Nodup) :
    (fw P pk mk).2 = ((mk.filter fun kv => P kv.1).map (·.1)).filter fun k => (lookup k pk).isSome := by
  fun_induction fw P pk mk with
  | case1 pk => simp
  | case2 pk kv mk hP hs ih =>
    simp only [List.filter_cons, hP, if_true, List.map_cons, List.nodup_cons] at hnd ⊢
    simp [ih hnd.2, hs]
  | case3 pk kv mk hP hs ih =>
    -- the entry is appended; no later key is `kv.1`, so later tests do not see it
    simp only [List.filter_cons, hP, if_true, List.map_cons, List.nodup_cons] at hnd ⊢
    rw [ih hnd.2, if_neg (by simpa using hs)]
    apply List.filter_congr
    intro k hk
    have : kv.1 ≠ k := fun e => hnd.1 (e ▸ hk)
    simp [lookup_append, lookup, this]
  | case4 pk kv mk hP ih =>
    simp only [List.filter_cons, hP] at hnd ⊢
    exact ih hnd

/-- the first-wins loops of the model (`mergeKeyedKvs`, `mergeExt`) are the generic fold -/
theorem fw_fold (P : String → Bool) (cat : String) (pk mk : List (String × J)) (w : List Mixin.Warn) :
    mk.foldl (fun (acc : List (String × J) × List Mixin.Warn) kv =>
      if P kv.1 then
        if (lookup kv.1 acc.1).isSome then (acc.1, acc.2 ++ [(cat, kv.1)]) else (acc.1 ++ [kv], acc.2)
      else acc) (pk, w)
    = ((fw P pk mk).1, w ++ (fw P pk mk).2.map fun k => (cat, k)) := by
  fun_induction fw P pk mk generalizing w with
  | case1 pk => simp
  | case2 pk kv mk hP hs ih => simp [hP, hs, ih]
  | case3 pk kv mk hP hs ih => simp [hP, hs, ih]
  | case4 pk kv mk hP ih => simp [hP, ih]

theorem mergeKeyedKvs_eq (cat : String) (pk mk : List (String × J)) :
    Mixin.mergeKeyedKvs cat pk mk = ((fw allKeys pk mk).1, (fw allKeys pk mk).2.map fun k => (cat, k)) :=
  (fw_fold allKeys cat pk mk []).trans (by simp)

theorem filter_allKeys (kvs : List (String × J)) : (kvs.filter fun kv => allKeys kv.1) = kvs := by
  simp [allKeys]

/-- the entries of the object under a keyed section that are entries of the section: under `paths` those
    with a path key (the others are extensions of `spec.Paths`), elsewhere all -/
def secP (s : String) : String → Bool := if s = "paths" then Doc.isPathKey else allKeys

theorem secP_paths : secP "paths" = Doc.isPathKey := if_pos rfl

theorem secP_ne {s : String} (h : s ≠ "paths") : secP s = allKeys := if_neg h

theorem sectionOf_eq (s : String) (d : J) : sectionOf s d = (d.getObj s).filter fun kv => secP s kv.1 := by
  by_cases h : s = "paths"
  · subst h; rw [sectionOf, if_pos rfl, secP_paths]; rfl
  · rw [sectionOf, if_neg h, secP_ne h, filter_allKeys]

theorem fw_lookup_filter (P : String → Bool) (k : String) (pk mk : List (String × J)) :
    lookup k ((fw P pk mk).1.filter fun kv => P kv.1) =
      (lookup k (pk.filter fun kv => P kv.1)).or (lookup k (mk.filter fun kv => P kv.1)) := by
  cases hk : P k
  · rw [lookup_filter_neg _ _ _ hk, lookup_filter_neg _ _ _ hk, lookup_filter_neg _ _ _ hk]; rfl
  · rw [lookup_filter_pos _ _ _ hk, lookup_filter_pos _ _ _ hk, fw_lookup]

theorem lookup_filter_congr (g : J → J) (P : String → Bool) (k : String) {a b : List (String × J)}
    (h : a.map (fun kv => (kv.1, g kv.2)) = b.map (fun kv => (kv.1, g kv.2))) :
    (lookup k (a.filter fun kv => P kv.1)).map g = (lookup k (b.filter fun kv => P kv.1)).map g := by
  cases hk : P k
  · rw [lookup_filter_neg _ _ _ hk, lookup_filter_neg _ _ _ hk]
  · rw [lookup_filter_pos _ _ _ hk, lookup_filter_pos _ _ _ hk, ← lookup_map fun _ => g, ← lookup_map fun _ => g, h]

theorem appendNew_fold (same : J → J → Bool) (ms : List J) (acc : List J × List J) :
    let r := ms.foldl (fun (acc : List J × List J) v =>
      if acc.1.any (same v) then (acc.1, acc.2 ++ [v]) else (acc.1 ++ [v], acc.2)) acc
    r.1 = unionNew same acc.1 ms ∧ r.1.length + r.2.length = acc.1.length + acc.2.length + ms.length := by
  induction ms generalizing acc with
  | nil => simp [unionNew]
  | cons v ms ih =>
    simp only [List.foldl_cons, unionNew]
    cases h : acc.1.any (same v)
    · simp only [Bool.false_eq_true, if_false]
      have := ih (acc.1 ++ [v], acc.2)
      simp only [unionNew, List.length_append, List.length_cons, List.length_nil] at this ⊢
      exact ⟨this.1, by omega⟩
    · simp only [if_true]
      have := ih (acc.1, acc.2 ++ [v])
      simp only [unionNew, List.length_append, List.length_cons, List.length_nil] at this ⊢
      exact ⟨this.1, by omega⟩

theorem appendNew_fst (same : J → J → Bool) (ps ms : List J) :
    (Mixin.appendNew same ps ms).1 = unionNew same ps ms :=
  (appendNew_fold same ms (ps, [])).1

theorem appendNew_length (same : J → J → Bool) (ps ms : List J) :
    (unionNew same ps ms).length + (Mixin.appendNew same ps ms).2.length = ps.length + ms.length := by
  have := (appendNew_fold same ms (ps, [])).2
  rw [← appendNew_fst]
  simpa [Mixin.appendNew] using this

theorem unionNew_append (same : J → J → Bool) (ps a b : List J) :
    unionNew same ps (a ++ b) = unionNew same (unionNew same ps a) b := by
  simp [unionNew, List.foldl_append]

theorem unionNew_length_ge (same : J → J → Bool) (ps ms : List J) :
    ps.length ≤ (unionNew same ps ms).length := by
  induction ms generalizing ps with
  | nil => simp [unionNew]
  | cons v ms ih =>
    simp only [unionNew, List.foldl_cons]
    split
    · exact ih ps
    · have := ih (ps ++ [v])
      simp only [unionNew, List.length_append, List.length_cons, List.length_nil] at this
      omega

theorem sameTag_eq : Mixin.sameTag = Spec.Mixin.sameTag := rfl

theorem isExtKey_eq : Mixin.isExtKey = Spec.Mixin.isExtKey := rfl

theorem toNat_ofNat_of_lt (n : Nat) (h : n < 0xd800) : (Char.ofNat n).toNat = n := by
  rw [Char.ofNat, dif_pos (Or.inl h)]; rfl

theorem front_of_isExtKey {k : String} (h : isExtKey k = true) : k.front = 'x' ∨ k.front = 'X' := by
  rw [String.front_eq, String.front?_eq]
  simp only [isExtKey, Str.hasPrefix, Str.toLowerAscii, String.toList_ofList] at h
  cases hk : k.toList with
  | nil => simp [hk] at h
  | cons c cs =>
    obtain ⟨t, ht⟩ := List.isPrefixOf_iff_prefix.1 h
    rw [hk, List.map_cons, show "x-".toList = ['x', '-'] from rfl, List.cons_append, List.cons.injEq] at ht
    have hc := ht.1.symm
    simp only [List.head?_cons, Option.getD_some]
    split at hc
    · rename_i hr
      have h90 : c.toNat ≤ 90 := hr.2
      have := congrArg Char.toNat hc
      rw [toNat_ofNat_of_lt _ (by omega), show 'x'.toNat = 120 from rfl] at this
      exact Or.inr (Char.toNat_inj.1 (by rw [show 'X'.toNat = 88 from rfl]; omega))
    · exact Or.inl hc

/-- how the fixed field names are shown not to be extension keys: the first character of a literal is
    cheap to evaluate, `isExtKey` on it (lower-casing the whole string) is not -/
theorem isExtKey_eq_false_of_front {k : String} (h : k.front ≠ 'x' ∧ k.front ≠ 'X') : isExtKey k = false := by
  cases hk : isExtKey k
  · rfl
  · exact absurd (front_of_isExtKey hk) (not_or.2 h)

end Proofs.Mixin
