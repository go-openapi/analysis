import Verif.Model.Str

/-!
  `List Char`-level lemmas about `escL`, `unescL`, `splitSlashL`, `joinSlashL`, `cleanL`, `joinL`,
  used by `Verif.Proofs.StrLemmas`; `toUpperAscii` is idempotent.
-/

namespace Str

@[simp] theorem escL_nil : escL [] = [] := rfl

theorem escL_no_slash (s : List Char) : '/' ∉ escL s := by
  fun_induction escL s with
  | case1 => simp
  | case2 r ih => simp [ih]
  | case3 r _ ih => simp [ih]
  | case4 c r _ h ih => simp [ih, Ne.symm h]

theorem escL_id (s : List Char) (h1 : '~' ∉ s) (h2 : '/' ∉ s) : escL s = s := by
  fun_induction escL s with
  | case1 => rfl
  | case2 r => exact absurd List.mem_cons_self h1
  | case3 r => exact absurd List.mem_cons_self h2
  | case4 c r _ _ ih =>
    rw [ih (fun h => h1 (List.mem_cons_of_mem _ h)) fun h => h2 (List.mem_cons_of_mem _ h)]

theorem unesc1L_tilde0 (r : List Char) : unesc1L ('~' :: '0' :: r) = '~' :: '0' :: unesc1L r := by
  -- neither `'~' :: '0' :: r` nor `'0' :: r` begins with `~1`: both fall to the last clause
  rw [unesc1L.eq_3 _ _ (by intro r' _ h; simp at h),
    unesc1L.eq_3 _ _ (by intro r' h _; simp at h)]

theorem unesc1L_other (c : Char) (r : List Char) (h : c ≠ '~') :
    unesc1L (c :: r) = c :: unesc1L r :=
  unesc1L.eq_3 c r (fun _ hc _ => h hc)

theorem unesc0L_other (c : Char) (r : List Char) (h : c ≠ '~') :
    unesc0L (c :: r) = c :: unesc0L r :=
  unesc0L.eq_3 c r (fun _ hc _ => h hc)

theorem unescL_escL (s : List Char) : unescL (escL s) = s := by
  unfold unescL
  fun_induction escL s with
  | case1 => rfl
  | case2 r ih => rw [unesc1L_tilde0, unesc0L, ih]
  | case3 r _ ih => rw [unesc1L, unesc0L_other _ _ (by decide), ih]
  | case4 c r h _ ih => rw [unesc1L_other c _ h, unesc0L_other c _ h, ih]

theorem splitSlashL_ne_nil (s : List Char) : splitSlashL s ≠ [] := by
  fun_induction splitSlashL s <;> simp

theorem splitSlashL_slash (r : List Char) : splitSlashL ('/' :: r) = [] :: splitSlashL r := by
  rw [splitSlashL]
  split
  · rename_i h; exact absurd h (splitSlashL_ne_nil r)
  · rename_i seg segs h; simp [h]

theorem splitSlashL_append_slash (s r : List Char) (hs : '/' ∉ s) :
    splitSlashL (s ++ '/' :: r) = s :: splitSlashL r := by
  induction s with
  | nil => exact splitSlashL_slash r
  | cons c t ih =>
    simp only [List.mem_cons, not_or] at hs
    rw [List.cons_append, splitSlashL, ih hs.2]
    simp [Ne.symm hs.1]

theorem splitSlashL_no_slash (s : List Char) (hs : '/' ∉ s) : splitSlashL s = [s] := by
  induction s with
  | nil => rfl
  | cons c t ih =>
    simp only [List.mem_cons, not_or] at hs
    rw [splitSlashL, ih hs.2]
    simp [Ne.symm hs.1]

/-- `Spec.Index.ptr` on `List Char`, escaping apart (`Str.toList_join_slash`) -/
def rootedL (segs : List (List Char)) : List Char := segs.flatMap fun s => '/' :: s

@[simp] theorem rootedL_nil : rootedL [] = [] := rfl
@[simp] theorem rootedL_cons (s : List Char) (segs : List (List Char)) :
    rootedL (s :: segs) = '/' :: s ++ rootedL segs := by
  simp [rootedL]

theorem rootedL_append (a b : List (List Char)) : rootedL (a ++ b) = rootedL a ++ rootedL b := by
  simp [rootedL]

theorem splitSlashL_append_rootedL (segs : List (List Char)) (hsegs : ∀ x ∈ segs, '/' ∉ x) :
    ∀ (s : List Char), '/' ∉ s → splitSlashL (s ++ rootedL segs) = s :: segs := by
  induction segs with
  | nil => intro s hs; simpa using splitSlashL_no_slash s hs
  | cons x xs ih =>
    intro s hs
    rw [rootedL_cons, List.cons_append, splitSlashL_append_slash s _ hs]
    rw [ih (fun y hy => hsegs y (List.mem_cons_of_mem _ hy)) x (hsegs x List.mem_cons_self)]

theorem splitSlashL_rootedL (segs : List (List Char)) (hsegs : ∀ x ∈ segs, '/' ∉ x) :
    splitSlashL (rootedL segs) = [] :: segs := by
  simpa using splitSlashL_append_rootedL segs hsegs [] (by simp)

theorem joinSlashL_cons_cons (s t : List Char) (rest : List (List Char)) :
    joinSlashL (s :: t :: rest) = s ++ '/' :: joinSlashL (t :: rest) := by
  rw [joinSlashL]
  intro h; simp at h

theorem joinSlashL_cons (s : List Char) (rest : List (List Char)) :
    joinSlashL (s :: rest) = s ++ rootedL rest := by
  induction rest generalizing s with
  | nil => simp [joinSlashL]
  | cons t rest ih => rw [joinSlashL_cons_cons, ih t]; simp

/-- a segment that `path.Clean` keeps as it is -/
def GoodSegL (s : List Char) : Prop := s ≠ [] ∧ s ≠ ['.'] ∧ s ≠ ['.', '.'] ∧ '/' ∉ s

theorem cleanStep_good (rooted : Bool) (stack : List (List Char)) (seg : List Char)
    (h : GoodSegL seg) : cleanStep rooted stack seg = seg :: stack := by
  obtain ⟨h1, h2, h3, _⟩ := h
  simp [cleanStep, h1, h2, h3]

theorem foldl_cleanStep_good (rooted : Bool) (segs : List (List Char))
    (h : ∀ s ∈ segs, GoodSegL s) :
    ∀ stack, segs.foldl (cleanStep rooted) stack = segs.reverse ++ stack := by
  induction segs with
  | nil => intro stack; simp
  | cons s rest ih =>
    intro stack
    rw [List.foldl_cons, cleanStep_good rooted stack s (h s List.mem_cons_self),
      ih (fun y hy => h y (List.mem_cons_of_mem _ hy))]
    simp

theorem cleanL_rootedL (segs : List (List Char)) (hne : segs ≠ []) (h : ∀ s ∈ segs, GoodSegL s) :
    cleanL (rootedL segs) = rootedL segs := by
  have hsplit := splitSlashL_rootedL segs (fun x hx => (h x hx).2.2.2)
  cases segs with
  | nil => exact absurd rfl hne
  | cons s rest =>
    rw [rootedL_cons, List.cons_append] at hsplit ⊢
    unfold cleanL
    have h0 : cleanStep true [] [] = [] := by simp [cleanStep]
    simp only [decide_true, if_true, hsplit]
    rw [List.foldl_cons, h0, foldl_cleanStep_good true (s :: rest) h []]
    simp only [List.append_nil, List.reverse_reverse]
    rw [joinSlashL_cons]

theorem rootedL_ne_nil (segs : List (List Char)) (hne : segs ≠ []) : rootedL segs ≠ [] := by
  cases segs with
  | nil => exact absurd rfl hne
  | cons s rest => simp

theorem joinL_rootedL (toks segs : List (List Char)) (hne : toks ≠ [])
    (ht : ∀ s ∈ toks, GoodSegL s) (hs : ∀ s ∈ segs, GoodSegL s) :
    joinL (rootedL toks :: segs) = rootedL toks ++ rootedL segs := by
  unfold joinL
  have hf : (rootedL toks :: segs).filter (· ≠ []) = rootedL toks :: segs := by
    rw [List.filter_eq_self]
    intro a ha
    rcases List.mem_cons.1 ha with rfl | ha
    · simpa using rootedL_ne_nil toks hne
    · simpa using (hs a ha).1
  rw [hf]
  simp only
  rw [joinSlashL_cons, ← rootedL_append]
  apply cleanL_rootedL
  · simp [hne]
  · intro s hmem
    rcases List.mem_append.1 hmem with h | h
    · exact ht s h
    · exact hs s h

/-- the 26 characters that upper-casing produces are not lower-case letters -/
theorem upper_not_lower : ∀ n < 26, ¬ ('a' ≤ Char.ofNat (n + 65) ∧ Char.ofNat (n + 65) ≤ 'z') := by decide

theorem toUpperAscii_idem (s : String) : toUpperAscii (toUpperAscii s) = toUpperAscii s := by
  unfold toUpperAscii
  rw [String.toList_ofList, List.map_map]
  refine congrArg String.ofList (List.map_congr_left fun c _ => ?_)
  simp only [Function.comp]
  split
  · rename_i h
    have h1 : 97 ≤ c.toNat := UInt32.le_iff_toNat_le.1 (Char.le_def.1 h.1)
    have h2 : c.toNat ≤ 122 := UInt32.le_iff_toNat_le.1 (Char.le_def.1 h.2)
    have := upper_not_lower (c.toNat - 97) (by omega)
    rw [show c.toNat - 97 + 65 = c.toNat - 32 by omega] at this
    rw [if_neg this]
  · rfl

end Str
