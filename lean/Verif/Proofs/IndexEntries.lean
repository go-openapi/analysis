import Verif.Properties.C04

/-!
  A bridge from the index theorems (C11, C12) to the step theorems of C01: what the schema reference index of the
  analyzer lists under a key is the `$ref` the document holds at the position the key designates.  Imports
  Properties/C04.lean (through it C12, C11): it combines their theorems.
-/

namespace Proofs.IndexEntries
open J Spec.Index

theorem schemaRef_entry (f : Facts) (hf : C11.FactsOK f) (d : J) (hwf : C11.WF d) (hn : C12.NodupKeys d)
    (hpk : ∀ kv ∈ d.getObj "paths", Doc.isPathKey kv.1 = true)
    (hplain : ∀ p ∈ allSchemas d, C04.PlainKey p.1)
    (kv : String × String) (h : kv ∈ Flatten.refMap (· = "schema") (Analyzer.analyze f d)) :
    ∃ a, Spec.Pointer.get d (Replace.keyTokens kv.1) = some a ∧ Doc.refStr a = kv.2 ∧ kv.2 ≠ "" := by
  obtain ⟨e, he, hek⟩ := List.mem_filterMap.1 h
  have he' : e ∈ refsOf (allSchemas d) :=
    (C11.refs_exact f hf d hwf "schema" (allSchemas d) (by simp [refKinds])).mem_iff.1 (IndexProof.mem_mapOf_mem _ _ he)
  obtain ⟨p, hp, hpe⟩ := List.mem_filterMap.1 he'
  split at hpe
  · rename_i hr
    cases hpe
    cases hek
    refine ⟨p.2, ?_, rfl, hr⟩
    rw [C04.keyTokens_key p.1 (hplain p hp)]
    exact (C12.resolves d hn hpk p hp).2
  · cases hpe

end Proofs.IndexEntries
