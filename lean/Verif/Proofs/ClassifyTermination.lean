import Verif.Proofs.Classify

/-!
  Termination of `Classify.classify` under the `$ref` guard (C20 `terminates`).

  The recursion either descends into `items` / `additionalProperties` of the current node (nesting
  depth decreases), or jumps at a `$ref` that is not on the stack to a node of the root document and
  pushes the `$ref` on the stack.  Every `$ref` that is pushed is read from an object below the
  schema or below the root, so the pushed strings all come from the finite list
  `allRefs s ++ allRefs root`; with the guard each of them is pushed at most once per stack.
-/

namespace Proofs.Classify
open J _root_.Classify

-- nesting depth (the twin of `C20.depth`, which is declared in a file that imports this one)
mutual
  def depth : J → Nat
    | .obj kvs => depthKvs kvs + 1
    | .arr xs => depthList xs + 1
    | _ => 1
  def depthKvs : List (String × J) → Nat
    | [] => 0
    | (_, v) :: rest => max (depth v) (depthKvs rest)
  def depthList : List J → Nat
    | [] => 0
    | v :: rest => max (depth v) (depthList rest)
end

-- the `$ref` string under every object of a JSON tree
mutual
  def allRefs : J → List String
    | .obj kvs => (match lookup "$ref" kvs with | some (.str r) => [r] | _ => []) ++ allRefsKvs kvs
    | .arr xs => allRefsList xs
    | _ => []
  def allRefsKvs : List (String × J) → List String
    | [] => []
    | (_, v) :: rest => allRefs v ++ allRefsKvs rest
  def allRefsList : List J → List String
    | [] => []
    | v :: rest => allRefs v ++ allRefsList rest
end

/-- `t` is nested no deeper than `j` and carries no `$ref` that `j` does not carry: all that the termination argument
    uses of "`t` is a node of `j`" -/
def Below (t j : J) : Prop := depth t ≤ depth j ∧ allRefs t ⊆ allRefs j

theorem Below.trans {a b c : J} (h1 : Below a b) (h2 : Below b c) : Below a c :=
  ⟨Nat.le_trans h1.1 h2.1, List.Subset.trans h1.2 h2.2⟩

theorem below_of_mem_list {x : J} {xs : List J} (h : x ∈ xs) :
    depth x ≤ depthList xs ∧ allRefs x ⊆ allRefsList xs := by
  induction xs with
  | nil => cases h
  | cons y ys ih =>
    rcases List.mem_cons.mp h with rfl | h
    · exact ⟨Nat.le_max_left .., List.subset_append_left ..⟩
    · exact ⟨Nat.le_trans (ih h).1 (Nat.le_max_right ..), List.subset_append_of_subset_right _ (ih h).2⟩

theorem below_of_mem_kvs {k : String} {v : J} {kvs : List (String × J)} (h : (k, v) ∈ kvs) :
    depth v ≤ depthKvs kvs ∧ allRefs v ⊆ allRefsKvs kvs := by
  induction kvs with
  | nil => cases h
  | cons y ys ih =>
    obtain ⟨k', v'⟩ := y
    rcases List.mem_cons.mp h with h | h
    · cases h; exact ⟨Nat.le_max_left .., List.subset_append_left ..⟩
    · exact ⟨Nat.le_trans (ih h).1 (Nat.le_max_right ..), List.subset_append_of_subset_right _ (ih h).2⟩

theorem field_below {s c : J} {k : String} (h : s.get? k = some c) : depth c < depth s ∧ allRefs c ⊆ allRefs s := by
  cases s with
  | obj kvs =>
    obtain ⟨hd, hr⟩ := below_of_mem_kvs (lookup_mem (show lookup k kvs = some c from h))
    exact ⟨Nat.lt_succ_of_le hd, List.subset_append_of_subset_right _ hr⟩
  | _ => cases h

theorem step_below {d c : J} {t : String} (h : Spec.Pointer.step d t = some c) : Below c d := by
  cases d with
  | obj kvs => exact (field_below (s := .obj kvs) h).imp Nat.le_of_lt id
  | arr xs =>
    simp only [Spec.Pointer.step, Option.bind_eq_some_iff] at h
    obtain ⟨i, _, hi⟩ := h
    exact (below_of_mem_list (List.mem_of_getElem? hi)).imp Nat.le_succ_of_le id
  | _ => cases h

theorem get_below {toks : List String} : ∀ {d t : J}, Spec.Pointer.get d toks = some t → Below t d := by
  induction toks with
  | nil => intro d t h; cases h; exact ⟨Nat.le_refl _, List.Subset.refl _⟩
  | cons tok toks ih =>
    intro d t h
    simp only [Spec.Pointer.get, Option.bind_eq_some_iff] at h
    obtain ⟨c, hc, h⟩ := h
    exact (ih h).trans (step_below hc)

theorem resolve_below {x : Ext} {root target : J} {r : String} (h : resolve x root r = some target) :
    Below target root := by
  simp only [resolve, Option.bind_eq_some_iff] at h
  obtain ⟨toks, _, h⟩ := h
  exact get_below h

theorem refStr_mem_allRefs {s : J} (h : Doc.refStr s ≠ "") : Doc.refStr s ∈ allRefs s := by
  unfold Doc.refStr getStr at *
  cases s with
  | obj kvs =>
    simp only [get?] at h ⊢
    rw [allRefs]
    cases hl : lookup "$ref" kvs with
    | none => simp [hl] at h
    | some v => cases v <;> simp_all
  | _ => simp [get?] at h

def unvisited (R visited : List String) : Nat := R.countP fun r => !visited.contains r

theorem unvisited_push_le (R visited : List String) (r : String) :
    unvisited R (r :: visited) ≤ unvisited R visited := by
  apply List.countP_mono_left
  intro a _ h
  simp only [List.contains_cons, Bool.not_or, Bool.and_eq_true] at h
  exact h.2

theorem unvisited_push_lt {R visited : List String} {r : String} (hr : r ∈ R)
    (hv : visited.contains r = false) : unvisited R (r :: visited) < unvisited R visited := by
  -- split `R` at an occurrence of `r`: the counts over `l1`, `l2` do not grow, `r` itself stops being counted
  obtain ⟨l1, l2, rfl⟩ := List.append_of_mem hr
  have h1 := unvisited_push_le l1 visited r
  have h2 := unvisited_push_le l2 visited r
  simp only [unvisited, List.countP_append, List.countP_cons, hv, List.contains_cons, beq_self_eq_true,
    Bool.true_or, Bool.not_true, Bool.not_false, Bool.false_eq_true, if_false, if_true] at *
  omega

theorem get_of_schemaOrBool {s sch : J} {k : String} {b : Bool} (h : schemaOrBool s k = some (some sch, b)) :
    s.get? k = some sch := by
  unfold schemaOrBool at h
  split at h <;> cases h
  assumption

theorem get_of_itemsOf {s it : J} (h : itemsOf s = some (.inl it)) : s.get? "items" = some it := by
  unfold itemsOf at h
  split at h <;> cases h
  assumption

/-- the recursive calls are at members of `s` (first hypothesis) and at the target of its `$ref` (second) -/
theorem classify_succ_ne {fc : Facts} {x : Ext} {root : J} {fuel : Nat} {visited : List String} {s : J}
    (hc : ∀ k c, s.get? k = some c → classify fc x root fuel visited c ≠ .outOfFuel)
    (hr : Doc.refStr s ≠ "" → (fc.schemaRefGuard && visited.contains (Doc.refStr s)) = false →
      ∀ target, resolve x root (Doc.refStr s) = some target →
        classify fc x root fuel (Doc.refStr s :: visited) target ≠ .outOfFuel) :
    classify fc x root (fuel + 1) visited s ≠ .outOfFuel := by
  by_cases h : Doc.refStr s = ""
  · rw [classify_noref h]
    refine Outcome.bind_ne_outOfFuel _ _ ?_ fun m => Outcome.bind_ne_outOfFuel _ _ ?_ fun a => nofun
    · unfold simpleMap
      split
      · split
        · exact Outcome.bind_ne_outOfFuel _ _ (hc _ _ (get_of_schemaOrBool ‹_›)) fun _ => nofun
        · nofun
        · nofun
      · nofun
    · unfold simpleArr
      split
      · split
        · exact Outcome.bind_ne_outOfFuel _ _ (hc _ _ (get_of_itemsOf ‹_›)) fun _ => nofun
        · nofun
      · nofun
  · rw [classify_ref h, viaRef]
    split
    · nofun
    · rename_i hv
      split
      · nofun
      · split
        · nofun
        · exact Outcome.bind_ne_outOfFuel _ _ (hr h (Bool.not_eq_true _ ▸ hv) _ ‹_›) fun _ => nofun

/-- fuel that suffices at a node of depth `d` with `unvisited R visited` of the `$ref`s `R` not on the stack, when
    every node that a `$ref` can lead to has depth at most `D` -/
def bound (R visited : List String) (D d : Nat) : Nat := unvisited R visited * (D + 1) + d + 1

theorem terminates_of_refs (fc : Facts) (hg : fc.schemaRefGuard = true) (x : Ext) (root : J) (R : List String)
    (hR : allRefs root ⊆ R) (fuel : Nat) :
    ∀ (visited : List String) (cur : J), allRefs cur ⊆ R →
      bound R visited (depth root) (depth cur) ≤ fuel →
      classify fc x root fuel visited cur ≠ .outOfFuel := by
  induction fuel with
  | zero => intro visited cur _ hb; simp [bound] at hb
  | succ fuel ih =>
    intro visited cur hsub hb
    unfold bound at hb
    apply classify_succ_ne
    · intro k c hc
      obtain ⟨hd, hr⟩ := field_below hc
      refine ih visited c (List.Subset.trans hr hsub) ?_
      unfold bound; omega
    · intro hne hv target ht
      obtain ⟨hd, hr⟩ := resolve_below ht
      rw [hg, Bool.true_and] at hv
      have hlt := unvisited_push_lt (hsub (refStr_mem_allRefs hne)) hv
      refine ih _ target (List.Subset.trans hr hR) ?_
      unfold bound
      -- one `$ref` fewer is unvisited, which pays for the depth of the target
      generalize unvisited R (Doc.refStr cur :: visited) = u' at *
      generalize unvisited R visited = u at *
      have : (u' + 1) * (depth root + 1) ≤ u * (depth root + 1) := Nat.mul_le_mul_right _ hlt
      rw [Nat.add_mul] at this
      omega

theorem terminates (fc : Facts) (hg : fc.schemaRefGuard = true) (x : Ext) (root : J) (visited : List String) (s : J)
    (fuel : Nat) (h : bound (allRefs s ++ allRefs root) visited (depth root) (depth s) ≤ fuel) :
    classify fc x root fuel visited s ≠ .outOfFuel :=
  terminates_of_refs fc hg x root _ (List.subset_append_right ..) fuel visited s (List.subset_append_left ..) h

end Proofs.Classify
