import Verif.Proofs.FlattenNames
import Verif.Proofs.Outcome

/-!
  What the phases of the Flatten model do to the document: a run of writes (`Writes`), each of them one of the
  three replace primitives or an assignment to `definitions` (`removeUnusedShared` and `removeUnused` erase keys
  and are no such run).  What the writes preserve, the phases preserve: any `DocInv`, and, for the phases that
  only `Save`, the definition names up to fresh additions (`FreshExt`).
-/

namespace Proofs.FlattenPhases
open J OutcomeM Proofs.FlattenBase Proofs.FlattenNames
open Flatten hiding defNames

structure DocInv (P : J → Prop) : Prop where
  updateRef : ∀ d key ref d', Replace.updateRef d key ref = .ok d' → P d → P d'
  rewrite : ∀ d key ref d', Replace.rewriteSchemaToRef d key ref = .ok d' → P d → P d'
  withSchema : ∀ d key sch d', Replace.updateRefWithSchema d key sch = .ok d' → P d → P d'
  setDefs : ∀ d v, P d → P (d.set "definitions" v)

variable {P : J → Prop} {D : J → J → Prop}

theorem DocInv.prim (hP : DocInv P) {d d' : J} (h : Prim d d') : P d → P d' := by
  cases h with
  | updateRef h => exact hP.updateRef _ _ _ _ h
  | rewrite h => exact hP.rewrite _ _ _ _ h
  | withSchema h => exact hP.withSchema _ _ _ _ h

theorem DocInv.of_prim (h : ∀ d d', Prim d d' → P d → P d') (hd : ∀ d v, P d → P (d.set "definitions" v)) :
    DocInv P where
  updateRef _ _ _ _ hu := h _ _ (.updateRef hu)
  rewrite _ _ _ _ hu := h _ _ (.rewrite hu)
  withSchema _ _ _ _ hu := h _ _ (.withSchema hu)
  setDefs := hd

-- `rfl` alone first tries to identify `reload fc s` with `s` field by field and fails slowly on the index:
-- wherever a state after `reload` is to be read as its document, rewrite with these two
theorem reload_doc (fc : Facts) (s : St) : (reload fc s).doc = s.doc := by unfold reload; rfl
theorem syncNewRefs_doc (s : St) : (syncNewRefs s).doc = s.doc := by unfold syncNewRefs; rfl

/-- what `Save` assigns: `definitions` of `d` with one entry set, under a name `uniqify` returned for `d` -/
def Saves (fc : Facts) (x : Ext) (d v : J) : Prop :=
  ∃ m name b sch, uniqify fc x (Flatten.defNames d) m = .ok (name, b) ∧
    v = .obj (setKv name sch (d.getObj "definitions"))

/-- `D d v`: the values `v` that may be assigned to `definitions` of `d` -/
inductive Writes (D : J → J → Prop) : J → J → Prop
  | refl (d : J) : Writes D d d
  | prim {a d d' : J} : Writes D a d → Prim d d' → Writes D a d'
  | setDefs {a d v : J} : Writes D a d → D d v → Writes D a (d.set "definitions" v)

def AnyDefs : J → J → Prop := fun _ _ => True

theorem Writes.trans {a b c : J} (h1 : Writes D a b) (h2 : Writes D b c) : Writes D a c := by
  induction h2 with
  | refl => exact h1
  | prim _ h ih => exact ih.prim h
  | setDefs _ h ih => exact ih.setDefs h

theorem Writes.any {a b : J} (h : Writes D a b) : Writes AnyDefs a b := by
  induction h with
  | refl => exact .refl _
  | prim _ h ih => exact ih.prim h
  | setDefs _ _ ih => exact ih.setDefs trivial

theorem Writes.inv (hP : DocInv P) {a b : J} (h : Writes D a b) (hp : P a) : P b := by
  induction h with
  | refl => exact hp
  | prim _ h ih => exact hP.prim h ih
  | setDefs _ _ ih => exact hP.setDefs _ _ ih

/-- C03 for runs that only save -/
theorem Writes.freshExt {fc : Facts} (hf : C03.FactsOK fc) {x : Ext} {a b : J} (h : Writes (Saves fc x) a b) :
    FreshExt (foldOf x) (defNames a) (defNames b) := by
  induction h with
  | refl => exact .refl _
  | prim _ h ih => exact h.defNames ▸ ih
  | @setDefs d _ _ hv ih =>
    obtain ⟨m, name, b, sch, hu, rfl⟩ := hv
    have hfresh := uniqify_fresh fc hf x _ m _ hu
    show FreshExt _ _ (defNames (save d name sch))
    rcases save_defNames d name sch (fun hm => hfresh name hm rfl) with hs | hs
    · exact hs ▸ ih.snoc name hfresh
    · exact hs.symm ▸ ih

variable (fc : Facts) (x : Ext) (o : Opts)

theorem nameWith_writes (st : St) (key : String) (schema : J) (parts : List String) (name : String) :
    Post (nameWith fc x o st key schema parts name) fun st' => Writes (Saves fc x) st.doc st'.doc := by
  unfold nameWith
  refine .bind fun mangled _ => .bind fun (newName, isOAIGen) hu => .bind fun ref _ => .bind fun d0 h0 => ?_
  -- the name was chosen for the definitions of `st.doc`, which the rewrite has kept
  have e0 : Flatten.defNames d0 = Flatten.defNames st.doc := (Prim.rewrite h0).defNames
  have w1 : Writes (Saves fc x) st.doc (save d0 newName (schema.set "x-go-gen-location" (.str (genLocation parts)))) :=
    ((Writes.refl _).prim (.rewrite h0)).setDefs ⟨mangled, newName, isOAIGen, _, e0 ▸ hu, rfl⟩
  refine .bind fun d3 h3 => .pure ?_
  exact Post.foldlM (Writes (Saves fc x) st.doc) w1
    (fun d kv _ hd => .bind fun r _ => .ite (fun _ => .pure hd) fun _ d' h => hd.prim (.updateRef h)) d3 h3

theorem nameSchema_writes (ops : List (String × OpRef)) (st : St) (key : String) (schema : J) (fl : Classify.Flags) :
    Post (nameSchema fc x o ops st key schema fl) fun st' => Writes (Saves fc x) st.doc st'.doc := by
  unfold nameSchema
  exact .bind fun names _ => Post.foldlM (fun s : St => Writes (Saves fc x) st.doc s.doc) (.refl _) fun s name _ hs =>
    .ite (fun _ => .pure hs) fun _ s' h => hs.trans (nameWith_writes fc x o _ _ _ _ _ s' h)

theorem nameInlinedSchemas_writes (s : St) :
    Post (nameInlinedSchemas fc x o s) fun s' => Writes (Saves fc x) s.doc s'.doc := by
  unfold nameInlinedSchemas
  refine .bind fun ops _ => .bind fun s1 h1 => .pure ?_
  rw [syncNewRefs_doc, reload_doc]
  refine Post.foldlM (fun t : St => Writes (Saves fc x) s.doc t.doc) (.refl _) (fun st key _ hs => ?_) s1 h1
  split
  · exact .pure hs
  · exact .ite (fun _ => .pure hs) fun _ => .bind fun fl _ =>
      .ite (fun _ st' h => hs.trans (nameSchema_writes fc x o _ _ _ _ _ st' h)) fun _ => .pure hs

theorem flattenAnonPointer_writes (ops : List (String × OpRef)) (st : St) (plans : List (String × PtrPlan))
    (key : String) (v : PtrPlan) :
    Post (flattenAnonPointer fc x o ops st plans key v) fun r => Writes (Saves fc x) st.doc r.1.doc := by
  unfold flattenAnonPointer
  exact .bind fun schema _ => .bind fun fl _ => .bind fun callers _ => .ite (fun _ => .pure (.refl _)) fun _ =>
    .ite (fun _ => .bind fun st' h => .pure (nameSchema_writes fc x o _ _ _ _ _ st' h))
      fun _ => .bind fun d h => .pure ((Writes.refl _).prim (.withSchema h))

theorem namePointersPass_writes (s : St) :
    Post (namePointersPass fc x o s) fun r => Writes (Saves fc x) s.doc r.1.doc := by
  unfold namePointersPass
  refine .bind fun plans _ => .bind fun ops _ => .bind fun ((s1, pl), rp) h1 => .pure ?_
  rw [syncNewRefs_doc, reload_doc]
  refine Post.foldlM (fun a : (St × List (String × PtrPlan)) × Bool => Writes (Saves fc x) s.doc a.1.1.doc)
    (.refl _) (fun acc key _ hs => ?_) ((s1, pl), rp) h1
  split
  · exact .pure hs
  · exact .bind fun r _ => .ite (fun _ => .bind fun d hd => .pure (hs.prim (.updateRef hd)))
      fun _ => .bind fun r' hr' => .pure (hs.trans (flattenAnonPointer_writes fc x o _ _ _ _ _ r' hr'))

theorem namePointersLoop_writes : ∀ (fuel : Nat) (s : St),
    Post (namePointersLoop fc x o fuel s) fun s' => Writes (Saves fc x) s.doc s'.doc
  | 0, _ => fun _ h => nomatch h
  | fuel + 1, s => by
    unfold namePointersLoop
    refine .bind fun (s1, rp) h1 => ?_
    have w1 := namePointersPass_writes fc x o s _ h1
    exact .ite (fun _ s' h => w1.trans (namePointersLoop_writes fuel s1 s' h)) fun _ => .pure w1

theorem namePointers_writes (s : St) : Post (namePointers fc x o s) fun s' => Writes (Saves fc x) s.doc s'.doc :=
  namePointersLoop_writes fc x o _ s

theorem normalizeRef_writes (s : St) : Post (normalizeRef fc x o s) fun s' => Writes D s.doc s'.doc := by
  unfold normalizeRef
  refine .bind fun d hd => .pure ?_
  split
  · exact .refl _
  · exact Post.foldlM (Writes D s.doc) (.refl _) (fun d kv _ h => .bind fun r _ d' hu => h.prim (.updateRef hu)) d hd

/-- the one phase that deletes a definition: its writes are not all `Saves` -/
theorem stripOAIGenForRef_writes (st : St) (k : String) (r : NewRef) :
    Post (stripOAIGenForRef fc x st k r) fun res => Writes AnyDefs st.doc res.1.doc := by
  unfold stripOAIGenForRef
  dsimp only
  split
  · exact .pure (.refl _)
  · refine .bind fun d1 h1 => .bind fun replacingRef _ => .bind fun (d2, nrs2, rep2) h2 => .bind fun rep3 _ => .pure ?_
    have w2 : Writes AnyDefs st.doc d2 := by
      refine Post.foldlM (fun a : J × List (String × NewRef) × Bool => Writes AnyDefs st.doc a.1)
        ((Writes.refl _).prim (.withSchema h1)) (fun acc p _ ha => .bind fun d hd => .pure ?_) _ h2
      dsimp only
      split
      · split
        · rename_i hu; exact (ha.prim (.updateRef hd)).prim (.updateRef hu)
        · exact ha.prim (.updateRef hd)
      · exact ha.prim (.updateRef hd)
    dsimp only
    split
    · exact w2.setDefs trivial
    · exact w2

theorem stripOAIGen_writes (s : St) :
    Post (stripOAIGen fc x s) fun res => Writes AnyDefs s.doc res.1.doc := by
  unfold stripOAIGen stripInOrder
  refine .bind fun (s2, rep) h1 => .pure ?_
  rw [reload_doc]
  refine Post.foldlM (fun a : St × Bool => Writes AnyDefs s.doc a.1.doc) (.refl _) (fun acc k _ ha => ?_)
    (s2, rep) h1
  split
  · exact .pure ha
  · exact .ite (fun _ => .pure ha) fun _ => .bind fun (st', rep') h2 =>
      .pure (ha.trans (stripOAIGenForRef_writes fc x _ _ _ (st', rep') h2))

theorem stripLoop_writes : ∀ (fuel : Nat) (s : St) (again : Bool),
    Post (stripLoop fc x o fuel s again) fun s' => Writes AnyDefs s.doc s'.doc
  | 0, _, _ => fun _ h => nomatch h
  | fuel + 1, s, again => by
    unfold stripLoop
    refine .ite (fun _ _ h => Outcome.ok.inj h ▸ .refl _) fun _ =>
      .bind fun s1 h1 => .bind fun s2 h2 => .bind fun (s3, again') h3 s' h => ?_
    have w1 : Writes AnyDefs s.doc s1.doc :=
      Post.ite (fun _ s1 h1 => reload_doc fc s ▸ (nameInlinedSchemas_writes fc x o _ s1 h1).any) (fun _ => .pure (.refl _))
        s1 h1
    exact ((w1.trans (namePointers_writes fc x o s1 s2 h2).any).trans (stripOAIGen_writes fc x s2 _ h3)).trans
      (stripLoop_writes fuel s3 again' s' h)

theorem stripPointersAndOAIGen_writes (fuel : Nat) (s : St) :
    Post (stripPointersAndOAIGen fc x o fuel s) fun s' => Writes AnyDefs s.doc s'.doc := by
  unfold stripPointersAndOAIGen
  exact .bind fun s1 h1 => .bind fun (s2, again) h2 s' h =>
    ((namePointers_writes fc x o s s1 h1).any.trans (stripOAIGen_writes fc x s1 _ h2)).trans
      (stripLoop_writes fc x o fuel s2 again s' h)

theorem importNewRef_writes (st : St) (refStr : String) (entry : RevIdx) :
    Post (importNewRef fc x o st refStr entry) fun st' => Writes (Saves fc x) st.doc st'.doc := by
  unfold importNewRef
  refine .bind fun sch0 _ => .bind fun sch _ => .bind fun raw _ => .bind fun nm _ => .bind fun (newName, isOAIGen) hu =>
    .bind fun ref _ => .bind fun st2 h2 => .pure ?_
  -- the name was chosen for the definitions of `st.doc`, which the re-targeting of the `$ref`s has kept
  have w2 : Writes (Saves fc x) st.doc st2.doc ∧ Flatten.defNames st2.doc = Flatten.defNames st.doc := by
    refine Post.foldlM (fun s : St => Writes (Saves fc x) st.doc s.doc ∧ Flatten.defNames s.doc = Flatten.defNames st.doc)
      ?_ (fun s key _ hs => .bind fun d hd => .pure ?_) _ h2
    · exact ⟨.refl _, rfl⟩
    · exact ⟨hs.1.prim (.updateRef hd), (Prim.updateRef hd).defNames.trans hs.2⟩
  exact w2.1.setDefs ⟨nm, newName, isOAIGen, sch, w2.2 ▸ hu, rfl⟩

theorem maintainNewRefs_doc (st : St) : Post (maintainNewRefs x st) fun st' => st'.doc = st.doc := by
  unfold maintainNewRefs
  refine Post.foldlM (fun s : St => s.doc = st.doc) rfl fun s k _ hs => ?_
  split
  · exact .pure hs
  · exact .bind fun r _ => .ite (fun _ => .pure hs) fun _ => .bind fun pref _ => .pure hs

theorem importExternalReferences_writes (s : St) :
    Post (importExternalReferences fc x o s) fun res => Writes (Saves fc x) s.doc res.1.doc := by
  unfold importExternalReferences
  refine .bind fun grouped _ => .bind fun (s1, complete) h1 => .bind fun s2 h2 => .pure ?_
  rw [maintainNewRefs_doc x s1 s2 h2]
  refine Post.foldlM (fun a : St × Bool => Writes (Saves fc x) s.doc a.1.doc) (.refl _) (fun acc refStr _ ha => ?_) _ h1
  have hnew (entry : RevIdx) : Post (importNewRef fc x o acc.1 refStr entry >>= fun st => pure (st, false))
      fun a : St × Bool => Writes (Saves fc x) s.doc a.1.doc :=
    .bind fun st hst => .pure (ha.trans (importNewRef_writes fc x o _ _ _ st hst))
  split
  · exact .pure ha
  · refine .ite (fun _ => .pure ha) fun _ => ?_
    split
    · exact .ite (fun _ => .bind fun ref _ => .bind fun d hd => .pure
        (Post.foldlM (Writes (Saves fc x) s.doc) ha (fun d0 key _ h0 d1 hu => h0.prim (.updateRef hu)) d hd)) fun _ => hnew _
    · exact hnew _

theorem importReferences_writes : ∀ (fuel : Nat) (s : St),
    Post (importReferences fc x o fuel s) fun s' => Writes (Saves fc x) s.doc s'.doc
  | 0, _ => fun _ h => nomatch h
  | fuel + 1, s => by
    unfold importReferences
    refine .bind fun (s1, complete) h1 => ?_
    have w1 := importExternalReferences_writes fc x o s _ h1
    refine .ite (fun _ => .pure ?_) fun _ s' h => w1.trans ?_
    · rw [reload_doc]; exact w1
    · have := importReferences_writes fuel (reload fc s1) s' h
      rwa [reload_doc] at this

-- `Writes.inv` / `Writes.freshExt` at two of the walks, as illustrations; the other phases are used through `…_writes`
theorem nameWith_inv (hP : DocInv P) (fc : Facts) (x : Ext) (o : Opts) (st : St) (key : String) (schema : J)
    (parts : List String) (name : String) (st' : St)
    (h : nameWith fc x o st key schema parts name = .ok st') (hp : P st.doc) : P st'.doc :=
  (nameWith_writes fc x o st key schema parts name st' h).inv hP hp

theorem namePointers_inv (hP : DocInv P) (fc : Facts) (x : Ext) (o : Opts) (s s' : St)
    (h : namePointers fc x o s = .ok s') (hp : P s.doc) : P s'.doc :=
  (namePointers_writes fc x o s s' h).inv hP hp

end Proofs.FlattenPhases

namespace Proofs.FlattenNames
open Flatten Proofs.FlattenPhases

theorem nameWith_fresh (fc : Facts) (hf : C03.FactsOK fc) (x : Ext) (o : Opts) (st : St) (key : String) (schema : J)
    (parts : List String) (name : String) (st' : St)
    (h : nameWith fc x o st key schema parts name = .ok st') :
    FreshExt (foldOf x) (defNames st.doc) (defNames st'.doc) :=
  (nameWith_writes fc x o st key schema parts name st' h).freshExt hf

end Proofs.FlattenNames
