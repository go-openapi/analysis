import Verif.Spec.Pointer
import Verif.Spec.Index
import Verif.Proofs.StrLemmasAux

/-!
  String lemmas on pointers and keys: how `path.Join`, `jsonpointer.Escape/Unescape` and pointer parsing
  interact, for all strings.  The last two lemmas are in namespace `PointerProof`, with the other facts about
  `Spec.Pointer`; the rest is in `Str`.
-/

namespace Str

/-- a path segment that `path.Clean` keeps as it is -/
def GoodSeg (s : String) : Prop := s ≠ "" ∧ s ≠ "." ∧ s ≠ ".." ∧ '/' ∉ s.toList

/-- a token whose escaped form is a good segment: exactly the tokens other than "", ".", ".." -/
def GoodTok (t : String) : Prop := t ≠ "" ∧ t ≠ "." ∧ t ≠ ".."

theorem toList_slash : ("/" : String).toList = ['/'] := by decide
theorem toList_dot : (".": String).toList = ['.'] := by decide
theorem toList_dotdot : ("..": String).toList = ['.', '.'] := by decide

theorem toList_esc (s : String) : (esc s).toList = escL s.toList := by
  simp [esc, String.toList_ofList]

theorem ne_iff_toList_ne (s t : String) : s ≠ t ↔ s.toList ≠ t.toList := by
  rw [Ne, Ne, String.toList_inj]

theorem goodSeg_iff (s : String) : GoodSeg s ↔ GoodSegL s.toList := by
  unfold GoodSeg GoodSegL
  rw [ne_iff_toList_ne s "", ne_iff_toList_ne s ".", ne_iff_toList_ne s "..",
    String.toList_empty, toList_dot, toList_dotdot]

theorem toList_join_slash (xs : List String) :
    (String.join (xs.map fun s => "/" ++ s)).toList = rootedL (xs.map String.toList) := by
  rw [String.toList_join]
  induction xs with
  | nil => rfl
  | cons x xs ih =>
    simp only [List.map_cons, List.flatMap_cons, rootedL_cons, String.toList_append, toList_slash, ih]
    simp

theorem ptr_eq_join (toks : List String) :
    Spec.Index.ptr toks = String.join ((toks.map esc).map fun s => "/" ++ s) := by
  rw [List.map_map]
  rfl

theorem esc_no_slash (s : String) : '/' ∉ (esc s).toList := by
  rw [toList_esc]; exact escL_no_slash _

theorem unesc_esc (s : String) : unesc (esc s) = s := by
  unfold unesc
  rw [toList_esc, unescL_escL, String.ofList_toList]

theorem esc_injective {s t : String} (h : esc s = esc t) : s = t := by
  rw [← unesc_esc s, h, unesc_esc]

/-- "", "." and ".." are their own escaped forms, and escaping is injective -/
theorem goodSeg_esc (t : String) (h : GoodTok t) : GoodSeg (esc t) :=
  ⟨fun e => h.1 (esc_injective (t := "") e), fun e => h.2.1 (esc_injective (t := ".") e),
    fun e => h.2.2 (esc_injective (t := "..") e), esc_no_slash t⟩

theorem join_rooted (toks segs : List String) (hne : toks ≠ [])
    (ht : ∀ s ∈ toks, GoodSeg s) (hs : ∀ s ∈ segs, GoodSeg s) :
    join (String.join (toks.map fun s => "/" ++ s) :: segs) =
      String.join (toks.map fun s => "/" ++ s) ++ String.join (segs.map fun s => "/" ++ s) := by
  have good (l : List String) (h : ∀ s ∈ l, GoodSeg s) : ∀ x ∈ l.map String.toList, GoodSegL x := by
    intro x hx
    obtain ⟨s, hs', rfl⟩ := List.mem_map.1 hx
    exact (goodSeg_iff s).1 (h s hs')
  apply String.toList_injective
  unfold join
  rw [String.toList_ofList, String.toList_append, List.map_cons, toList_join_slash, toList_join_slash]
  exact joinL_rootedL _ _ (by simpa using hne) (good toks ht) (good segs hs)

/-- `join_rooted` for a rendered pointer -/
theorem join_ptr (toks : List String) (segs : List String)
    (ht : ∀ t ∈ toks, GoodTok t) (hne : toks ≠ []) (hs : ∀ s ∈ segs, GoodSeg s) :
    join (Spec.Index.ptr toks :: segs) = Spec.Index.ptr toks ++ String.join (segs.map fun s => "/" ++ s) := by
  rw [ptr_eq_join]
  refine join_rooted (toks.map esc) segs (by simpa using hne) ?_ hs
  intro s hs'
  obtain ⟨t, ht', rfl⟩ := List.mem_map.1 hs'
  exact goodSeg_esc t (ht t ht')

theorem join_lit (lit : String) (segs : List String) (hl : GoodSeg lit) (hs : ∀ s ∈ segs, GoodSeg s) :
    join (("/" ++ lit) :: segs) = "/" ++ lit ++ String.join (segs.map fun s => "/" ++ s) := by
  simpa [String.join] using join_rooted [lit] segs (by simp) (by simpa using hl) hs

theorem ptr_append (a b : List String) : Spec.Index.ptr (a ++ b) = Spec.Index.ptr a ++ Spec.Index.ptr b := by
  unfold Spec.Index.ptr
  rw [List.map_append, String.join_append]

theorem ptr_singleton (t : String) : Spec.Index.ptr [t] = "/" ++ esc t := by
  simp [Spec.Index.ptr, String.join]

theorem ptr_snoc (toks : List String) (t : String) :
    Spec.Index.ptr (toks ++ [t]) = Spec.Index.ptr toks ++ "/" ++ esc t := by
  rw [ptr_append, ptr_singleton, String.append_assoc]

theorem join_ptr_toks {toks ks : List String} (hg : ∀ t ∈ toks ++ ks, GoodTok t) (hne : toks ≠ []) :
    join (Spec.Index.ptr toks :: ks.map esc) = Spec.Index.ptr (toks ++ ks) := by
  rw [join_ptr toks (ks.map esc) (fun t h => hg t (List.mem_append_left _ h)) hne, ptr_append, List.map_map]
  · rfl
  · intro s hs
    obtain ⟨k, hk, rfl⟩ := List.mem_map.1 hs
    exact goodSeg_esc k (hg k (List.mem_append_right _ hk))

theorem parse_ptr (toks : List String) : Spec.Pointer.parse (Spec.Index.ptr toks) = toks := by
  unfold Spec.Pointer.parse
  rw [ptr_eq_join, toList_join_slash, splitSlashL_rootedL]
  · simp only [List.map_map]
    refine (List.map_congr_left fun t _ => ?_).trans (List.map_id toks)
    exact unesc_esc t
  · intro x hx
    simp only [List.map_map, List.mem_map, Function.comp] at hx
    obtain ⟨t, _, rfl⟩ := hx
    exact esc_no_slash t

theorem esc_of_plain (k : String) (h1 : '~' ∉ k.toList) (h2 : '/' ∉ k.toList) : esc k = k := by
  apply String.toList_injective
  rw [toList_esc]
  exact escL_id _ h1 h2

-- `itoa n` is `toString n` by `rfl`; what is used on array indices is stated with `toString`
theorem toList_itoa (n : Nat) : (itoa n).toList = Nat.toDigits 10 n := by
  unfold itoa
  rw [Nat.toString_eq_repr, Nat.toList_repr]

theorem isDigit_of_mem_itoa {n : Nat} {c : Char} (h : c ∈ (itoa n).toList) : c.isDigit = true := by
  rw [toList_itoa] at h
  exact Nat.isDigit_of_mem_toDigits (by decide) (by decide) h

theorem docIsDigit_of_isDigit {c : Char} (h : c.isDigit = true) : Doc.isDigit c = true := by
  simp only [Char.isDigit, Bool.and_eq_true, decide_eq_true_eq] at h
  simp only [Doc.isDigit, decide_eq_true_eq]
  exact ⟨Char.le_def.2 (by simpa using h.1), Char.le_def.2 (by simpa using h.2)⟩

theorem all_isDigit_itoa (n : Nat) : (itoa n).toList.all Doc.isDigit = true :=
  List.all_eq_true.2 fun _ hc => docIsDigit_of_isDigit (isDigit_of_mem_itoa hc)

theorem digits_of_natOfDigits {t : String} {i : Nat} (h : Spec.Pointer.natOfDigits t.toList = some i) :
    t.toList ≠ [] ∧ t.toList.all Doc.isDigit = true := by
  unfold Spec.Pointer.natOfDigits at h
  split at h
  · cases h
  · rename_i hc
    simp only [not_or, Decidable.not_not] at hc
    exact hc

/-- The second string is given by its characters, so that a literal is matched by unification instead of being taken
    apart by `String.toList` (slow to evaluate). -/
theorem ne_ofList_of_digit {t : String} {c : Char} {cs : List Char} (ht : t.toList = c :: cs)
    (hc : Doc.isDigit c = true) {a : Char} {as : List Char} (ha : Doc.isDigit a = false) :
    t ≠ String.ofList (a :: as) := by
  rintro rfl
  rw [String.toList_ofList] at ht
  cases ht
  rw [hc] at ha; cases ha

theorem esc_of_digits (k : String) (h : k.toList.all Doc.isDigit = true) : esc k = k := by
  -- '~' and '/' would be digits
  apply esc_of_plain <;> intro hm <;> have := List.all_eq_true.1 h _ hm <;> revert this <;> decide

theorem esc_itoa (n : Nat) : esc (toString n) = toString n := esc_of_digits (itoa n) (all_isDigit_itoa n)

theorem esc_items : esc "items" = "items" := esc_of_plain _ (by simp) (by simp)
theorem esc_parameters : esc "parameters" = "parameters" := esc_of_plain _ (by simp) (by simp)
theorem esc_responses : esc "responses" = "responses" := esc_of_plain _ (by simp) (by simp)
theorem esc_headers : esc "headers" = "headers" := esc_of_plain _ (by simp) (by simp)

theorem root_paths : ("/paths" : String) = Spec.Index.ptr ["paths"] := by
  simp [Spec.Index.ptr, esc_of_plain "paths" (by simp) (by simp)]
theorem root_parameters : ("/parameters" : String) = Spec.Index.ptr ["parameters"] := by
  simp [Spec.Index.ptr, esc_parameters]
theorem root_responses : ("/responses" : String) = Spec.Index.ptr ["responses"] := by
  simp [Spec.Index.ptr, esc_responses]
theorem root_definitions : ("/definitions" : String) = Spec.Index.ptr ["definitions"] := by
  simp [Spec.Index.ptr, esc_of_plain "definitions" (by simp) (by simp)]

theorem ptr_ne_definitions (toks : List String) (h : 2 ≤ toks.length) : Spec.Index.ptr toks ≠ "/definitions" := by
  intro e
  have := congrArg Spec.Pointer.parse (e.trans root_definitions)
  rw [parse_ptr, parse_ptr] at this
  subst this
  simp at h

end Str

namespace PointerProof

theorem natOfDigits_toString (i : Nat) : Spec.Pointer.natOfDigits (toString i).toList = some i := by
  have hl : (toString i).toList = Nat.toDigits 10 i := Str.toList_itoa i
  unfold Spec.Pointer.natOfDigits
  rw [hl]
  have hne : Nat.toDigits 10 i ≠ [] := Nat.toDigits_ne_nil
  have hall : (Nat.toDigits 10 i).all Doc.isDigit = true := hl ▸ Str.all_isDigit_itoa i
  rw [if_neg (by simp [hne, hall])]
  have := @Nat.ofDigitChars_ten_toDigits i
  unfold Nat.ofDigitChars at this
  rw [this]

theorem toString_inj {a b : Nat} (h : toString a = toString b) : a = b := by
  have ha := natOfDigits_toString a
  rw [h, natOfDigits_toString] at ha
  exact (Option.some.inj ha).symm

end PointerProof
