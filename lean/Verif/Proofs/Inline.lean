import Verif.Proofs.Retarget

/-!
  The in-place expansion of the pointer phases (`flattenAnonPointer`, expansion branch, and `stripOAIGenForRef`):
  a `$ref` node is replaced by a copy of the schema its chain of `$ref`s ends at (`UpdateRefWithSchema`).

  On bundles (`ISetting`): the second bundle agrees with the first except at and below `kp`; in the first `kp` holds a
  `$ref` whose chain ends at `e`; in the second the sub-tree at `kp` is a copy of the sub-tree at `e`.  Then, for an
  adequate hop bound, every good position denotes the same tree in both, and `kp ++ t` denotes in the second what
  `e ++ t` denotes in the first.
-/

namespace Proofs.Inline
open J Spec.Meaning _root_.Cert Proofs.Bisim Proofs.Retarget

def ext (p : Pos) (t : List String) : Pos := (p.1, p.2 ++ t)

theorem ext_child (p : Pos) (t : List String) (k : String) : child (ext p t) k = ext p (t ++ [k]) := by
  simp [child, ext, List.append_assoc]

theorem ext_nil (p : Pos) : ext p [] = p := by simp [ext]

structure ISetting where
  b1 : Bundle
  b2 : Bundle
  kp : Pos
  e : Pos
  q0 : Pos
  /-- excludes everything at or below `kp` -/
  Good : Pos → Prop
  a1 : J
  /-- the node at `e` -/
  ne : J
  htarget : ∀ doc s, b2.target doc s = b1.target doc s
  hdoc : e.1 = kp.1
  hnodes : ∀ p, Good p →
    (b1.node p = none ∧ b2.node p = none) ∨
    (∃ a c, b1.node p = some a ∧ b2.node p = some c ∧ Doc.refStr c = Doc.refStr a ∧ ShapeEq a c)
  hk1 : b1.node kp = some a1
  hv1 : Doc.refStr a1 ≠ ""
  ht1 : b1.target kp.1 (Doc.refStr a1) = some q0
  hreach : Reaches b1 q0 e
  he : b1.node e = some ne
  hene : Doc.refStr ne = ""
  hcopy : ∀ t, b2.node (ext kp t) = b1.node (ext e t)
  hgoodT : ∀ doc s q, b1.target doc s = some q → Good q ∨ q = kp
  hgoodC : ∀ x a, Good x → b1.node x = some a →
    (∀ kvs, a = .obj kvs → ∀ key ∈ (visible kvs).map (·.1), Good (child x key) ∨ child x key = kp) ∧
    (∀ xs, a = .arr xs → ∀ i : Nat, Good (child x (toString i)) ∨ child x (toString i) = kp)
  -- `hnodes`, `hgoodC`: `NodeSim`, `Kids`, as in `RSetting`

namespace ISetting
variable (S : ISetting)

/-- how the ends of matching chains are related (R-end) -/
def Rend (x y : Pos) : Prop := (x = y ∧ S.Good x) ∨ (x = S.e ∧ y = S.kp)

def Rel (x y : Pos) : Prop := (x = y ∧ (S.Good x ∨ x = S.kp)) ∨ ∃ t, x = ext S.e t ∧ y = ext S.kp t

theorem Rend.rel {S : ISetting} {x y : Pos} (h : S.Rend x y) : S.Rel x y := by
  rcases h with ⟨rfl, hg⟩ | ⟨rfl, rfl⟩
  · exact Or.inl ⟨rfl, Or.inl hg⟩
  · exact Or.inr ⟨[], (ext_nil _).symm, (ext_nil _).symm⟩

theorem hop_kp : Hop S.b1 S.kp S.q0 := ⟨_, S.hk1, S.hv1, S.ht1⟩

theorem reaches_kp : Reaches S.b1 S.kp S.e := .of_hop S.hop_kp S.hreach

theorem ends_e : Ends S.b1 S.e := ⟨S.ne, S.he, S.hene⟩

theorem ends_kp : Ends S.b2 S.kp := by
  have h := S.hcopy []
  rw [ext_nil, ext_nil] at h
  exact ⟨S.ne, h.trans S.he, S.hene⟩

theorem target_rend {p t : Pos} (hh : Hop S.b1 p t) : ∃ t1, Reaches S.b1 t t1 ∧ S.Rend t1 t := by
  obtain ⟨_, _, _, ht⟩ := hh
  rcases S.hgoodT _ _ _ ht with hg | rfl
  · exact ⟨t, .refl _, Or.inl ⟨rfl, hg⟩⟩
  · exact ⟨S.e, S.reaches_kp, Or.inr ⟨rfl, rfl⟩⟩

theorem rel_local {x y : Pos} (h : S.Rel x y) (hne : ¬ (x = S.kp ∧ y = S.kp)) :
    (Ends S.b2 y ↔ Ends S.b1 x) ∧ ∀ t, Hop S.b2 y t ↔ Hop S.b1 x t := by
  rcases h with ⟨rfl, hg | rfl⟩ | ⟨t, rfl, rfl⟩
  · exact ⟨NodeSim.ends_iff (S.hnodes x hg), NodeSim.hop_iff (S.hnodes x hg) fun _ _ => S.htarget _ _⟩
  · exact absurd ⟨rfl, rfl⟩ hne
  · have hd : (ext S.kp t).1 = (ext S.e t).1 := S.hdoc.symm
    simp only [Ends, Hop, S.hcopy t, hd, S.htarget, implies_true, and_self]

variable {S} in
/-- `Q` between `Rend` and `Rel`: one proof for `chase_fwd` (at `Rend`) and for `inline_preserves` (at `Rel`) -/
theorem chase_fwd_of {Q : Pos → Pos → Prop} (h1 : ∀ x y, S.Rend x y → Q x y) (h2 : ∀ x y, Q x y → S.Rel x y) :
    ∀ (h : Nat) (p q x : Pos), Q p q → chase S.b1 h p = some x → ∃ y, chase S.b2 h q = some y ∧ Q x y := by
  refine chase_sim (s := 0) ?_ ?_
  · intro p q hq he
    have hne : ¬ (p = S.kp ∧ q = S.kp) := fun e => S.hop_kp.not_ends (e.1 ▸ he)
    exact ⟨q, chase_end ((S.rel_local (h2 _ _ hq) hne).1.2 he) 0, hq⟩
  · intro p q t hq hh
    by_cases hkp : p = S.kp ∧ q = S.kp
    · obtain ⟨rfl, rfl⟩ := hkp
      cases hh.unique S.hop_kp
      exact ⟨S.e, S.kp, S.hreach, h1 _ _ (Or.inr ⟨rfl, rfl⟩), Or.inr rfl⟩
    · obtain ⟨t1, hr, hrend⟩ := S.target_rend hh
      exact ⟨t1, t, hr, h1 _ _ hrend, Or.inl (((S.rel_local (h2 _ _ hq) hkp).2 t).2 hh)⟩

variable {S} in
/-- the first bundle may need more hops: the way from `kp` to the end of its chain -/
theorem chase_bwd_of {Q : Pos → Pos → Prop} (h1 : ∀ x y, S.Rend x y → Q x y) (h2 : ∀ x y, Q x y → S.Rel x y) :
    ∀ (h : Nat) (q p y : Pos), Q p q → chase S.b2 h q = some y → ∃ k x, chase S.b1 k p = some x ∧ Q x y := by
  refine chase_sim_ex (R := fun q p => Q p q) ?_ ?_
  · intro q p hq he
    by_cases hkp : p = S.kp ∧ q = S.kp
    · obtain ⟨rfl, rfl⟩ := hkp
      obtain ⟨m, hm⟩ := reaches_chase_back S.b1 S.reaches_kp 1 S.e (chase_end S.ends_e 0)
      exact ⟨_, S.e, hm, h1 _ _ (Or.inr ⟨rfl, rfl⟩)⟩
    · exact ⟨1, p, chase_end ((S.rel_local (h2 _ _ hq) hkp).1.1 he) 0, hq⟩
  · intro q p t hq hh
    have hkp : ¬ (p = S.kp ∧ q = S.kp) := fun e => hh.not_ends (e.2 ▸ S.ends_kp)
    have hh1 := ((S.rel_local (h2 _ _ hq) hkp).2 t).1 hh
    obtain ⟨t1, hr, hrend⟩ := S.target_rend hh1
    exact ⟨t, t1, .refl _, h1 _ _ hrend, .of_hop hh1 hr⟩

theorem chase_fwd : ∀ (h : Nat) (p x : Pos), S.Good p → chase S.b1 h p = some x →
    ∃ y, chase S.b2 h p = some y ∧ S.Rend x y :=
  fun h p x hg => chase_fwd_of (fun _ _ => id) (fun _ _ => Rend.rel) h p p x (Or.inl ⟨rfl, hg⟩)

theorem chase_bwd : ∀ (h : Nat) (p y : Pos), S.Good p → chase S.b2 h p = some y →
    ∃ h' x, chase S.b1 h' p = some x ∧ S.Rend x y :=
  fun h p y hg => chase_bwd_of (fun _ _ => id) (fun _ _ => Rend.rel) h p p y (Or.inl ⟨rfl, hg⟩)

theorem inline_preserves (hops : Nat) (had : RSetting.Adequate S.b1 hops) (hpos : 0 < hops) :
    (∀ n p, S.Good p ∨ p = S.kp → unfold S.b1 hops n p = unfold S.b2 hops n p) ∧
    (∀ n t, unfold S.b1 hops n (ext S.e t) = unfold S.b2 hops n (ext S.kp t)) := by
  have _ := hpos  -- not needed: `had` alone bounds every chain
  have key : ∀ n p q, S.Rel p q → unfold S.b1 hops n p = unfold S.b2 hops n q := by
    refine bisim_of_sim (chase_fwd_of (fun _ _ => Rend.rel) (fun _ _ => id) hops) ?_ ?_
    · intro p q y hr hc
      obtain ⟨k, x, hx, _⟩ := chase_bwd_of (fun _ _ => Rend.rel) (fun _ _ => id) hops q p y hr hc
      exact ⟨x, had k p x hx⟩
    · intro x y a c hr ha hc hra _
      rcases hr with ⟨rfl, hg | rfl⟩ | ⟨t, rfl, rfl⟩
      · exact NodeSim.nodesOK (S.hnodes x hg) ha hc (Kids.mono (S.hgoodC x a hg ha) fun _ h => Or.inl ⟨rfl, h⟩)
      · exact absurd ⟨a, ha, hra⟩ S.hop_kp.not_ends
      · cases ((S.hcopy t).trans ha).symm.trans hc
        exact nodesOK_of_shapeEq (shapeEq_refl a) (Kids.const fun k => Or.inr ⟨t ++ [k], ext_child _ _ _, ext_child _ _ _⟩)
  exact ⟨fun n p hg => key n p p (Or.inl ⟨rfl, hg⟩), fun n t => key n _ _ (Or.inr ⟨t, rfl, rfl⟩)⟩

end ISetting
end Proofs.Inline
