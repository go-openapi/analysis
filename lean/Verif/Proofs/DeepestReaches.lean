import Verif.Proofs.RetargetModel

/-!
  What `replace.DeepestRef` (model: `Flatten.deepestRef`) returns lies on the chain of `$ref`s it was started on: the
  hypothesis `Reaches` of the re-targeting and in-place expansion theorems is what the phases compute before they
  rewrite.
-/

namespace Proofs.DeepestReaches
open J Replace Flatten Spec.Meaning Proofs.Retarget Proofs.RetargetModel

/-- the `$ref` table of the root document agrees with the decoder the model is given -/
def TableOK (x : Ext) (T : List (String × Pos)) : Prop :=
  ∀ s toks, x.refTokens s = some toks → T.lookup s = some ("", toks)

/-- the iterations of the loop of `DeepestRef` that return (there was fuel) -/
theorem deepestRefLoop_ok {x : Ext} {d : J} {n : Nat} {visited : List String} {cur r : String} {sch : Option J}
    (h : deepestRefLoop x d n visited cur = .ok (r, sch)) :
    ∃ fuel, n = fuel + 1 ∧
    ((Str.dir cur = "#/definitions" ∧ r = cur ∧ sch = none) ∨
     ∃ toks node kind, x.refTokens cur = some toks ∧ walk .swagger d toks = some (node, kind) ∧
      ((Doc.refStr node = "" ∧ r = cur ∧ sch = some node ∧ ∃ kvs, node = .obj kvs) ∨
       (Doc.refStr node ≠ "" ∧ deepestRefLoop x d fuel (cur :: visited) (Doc.refStr node) = .ok (r, sch)))) := by
  revert h
  fun_cases deepestRefLoop x d n visited cur <;> intro h
  case case2 fuel hdir =>
    cases h
    exact ⟨fuel, rfl, Or.inl ⟨hdir, rfl, rfl⟩⟩
  case case6 fuel toks kind kvs hw next hnext hdir htoks hvis =>
    cases h
    exact ⟨fuel, rfl, Or.inr ⟨toks, _, kind, htoks, hw, Or.inl ⟨hnext, rfl, rfl, kvs, rfl⟩⟩⟩
  case case8 fuel toks node kind hw next hnext hdir htoks hvis =>
    exact ⟨fuel, rfl, Or.inr ⟨toks, node, kind, htoks, hw, Or.inr ⟨hnext, h⟩⟩⟩
  all_goals cases h

/-- that the table knows `cur` is a conclusion: a loop that returns has returned `cur` itself or asked the decoder for it -/
theorem deepestRefLoop_reaches (x : Ext) (d : J) (T : List (String × Pos)) (rest : Bundle) (hT : TableOK x T) :
    ∀ (fuel : Nat) (visited : List String) (cur r : String) (sch : Option J),
      deepestRefLoop x d fuel visited cur = .ok (r, sch) →
      ∀ q', T.lookup r = some q' → ∃ qc, T.lookup cur = some qc ∧
        Reaches (bundleWith d T rest) qc q' ∧
        (∀ s, sch = some s → (bundleWith d T rest).node q' = some s ∧ (∃ m, s = .obj m) ∧ Doc.refStr s = "") := by
  intro fuel
  induction fuel with
  | zero => intro visited cur r sch h; simp [deepestRefLoop] at h
  | succ fuel ih =>
    intro visited cur r sch h q' hq'
    obtain ⟨_, e, hcase⟩ := deepestRefLoop_ok h
    cases e
    rcases hcase with ⟨_, rfl, rfl⟩ | ⟨toks, node, kind, htoks, hw, hcase⟩
    · exact ⟨q', hq', .refl _, nofun⟩
    · have hnode : (bundleWith d T rest).node ("", toks) = some node :=
        (node_root ..).trans (ReplaceKeys.get_of_walk hw)
      refine ⟨("", toks), hT cur toks htoks, ?_⟩
      rcases hcase with ⟨hnext, rfl, rfl, hobj⟩ | ⟨hnext, hrec⟩
      · cases (hT _ toks htoks).symm.trans hq'
        exact ⟨.refl _, fun s hs => by cases hs; exact ⟨hnode, hobj, hnext⟩⟩
      · obtain ⟨qn, hqn, hr, hs⟩ := ih _ _ _ _ hrec q' hq'
        exact ⟨.step hnode hnext ((target_root ..).trans hqn) hr, hs⟩

theorem deepestRef_frag {x : Ext} {d : J} {fuel : Nat} {ref : String} (hfrag : hasFragmentOnly ref = true) :
    deepestRef x d fuel ref = deepestRefLoop x d fuel [] ref := by
  simp [deepestRef, hfrag]

theorem deepestRef_reaches (x : Ext) (d : J) (T : List (String × Pos)) (rest : Bundle) (hT : TableOK x T)
    (fuel : Nat) (ref r : String) (sch : Option J) (hfrag : hasFragmentOnly ref = true)
    (h : deepestRef x d fuel ref = .ok (r, sch)) (qc q' : Pos) (hqc : T.lookup ref = some qc) (hq' : T.lookup r = some q') :
    Reaches (bundleWith d T rest) qc q' ∧
    (∀ s, sch = some s → (bundleWith d T rest).node q' = some s ∧ (∃ m, s = .obj m) ∧ Doc.refStr s = "") := by
  rw [deepestRef_frag hfrag] at h
  obtain ⟨_, hqc', hr⟩ := deepestRefLoop_reaches x d T rest hT fuel [] ref r sch h q' hq'
  cases hqc.symm.trans hqc'
  exact hr

end Proofs.DeepestReaches
