import Verif.Model.Json

/-!
  Lemmas on the JSON model (Verif/Model/Json.lean): association lists, objects, the traversals `mapObj` and `sel`, the
  equality test `beq`, strong induction on the size of a tree.
-/

namespace J

@[simp] theorem lookup_nil (k : String) : lookup k [] = none := rfl

theorem lookup_cons (k k' : String) (v : J) (rest : List (String × J)) :
    lookup k ((k', v) :: rest) = if k' = k then some v else lookup k rest := rfl

theorem lookup_eq (k : String) (kvs : List (String × J)) : lookup k kvs = kvs.lookup k := by
  induction kvs with
  | nil => rfl
  | cons kv rest ih =>
    rw [lookup, List.lookup_cons, ih]
    by_cases h : kv.1 = k
    · simp [h]
    · simp [h, beq_false_of_ne (Ne.symm h)]

theorem lookup_mem {k : String} {v : J} {kvs : List (String × J)} (h : lookup k kvs = some v) :
    (k, v) ∈ kvs := by
  obtain ⟨l₁, l₂, rfl, -⟩ := List.lookup_eq_some_iff.1 (lookup_eq k kvs ▸ h)
  simp

theorem lookup_of_mem {kvs : List (String × J)} (hn : (kvs.map (·.1)).Nodup) {kv : String × J}
    (h : kv ∈ kvs) : lookup kv.1 kvs = some kv.2 := by
  induction kvs with
  | nil => simp at h
  | cons a rest ih =>
    obtain ⟨k', v'⟩ := a
    simp only [List.map_cons, List.nodup_cons] at hn
    rw [J.lookup_cons]
    rcases List.mem_cons.1 h with rfl | h
    · simp
    · rw [if_neg fun (e : k' = kv.1) => hn.1 (e ▸ List.mem_map.2 ⟨kv, h, rfl⟩)]
      exact ih hn.2 h

theorem lookup_isSome_iff (k : String) (kvs : List (String × J)) :
    (lookup k kvs).isSome = true ↔ k ∈ kvs.map (·.1) := by
  simp only [lookup_eq, List.lookup_isSome_iff, beq_iff_eq, List.mem_map]
  exact exists_congr fun _ => and_congr_right fun _ => eq_comm

theorem lookup_eq_none_iff (k : String) (kvs : List (String × J)) :
    lookup k kvs = none ↔ k ∉ kvs.map (·.1) := by
  rw [← lookup_isSome_iff]
  cases lookup k kvs <;> simp

theorem isSome_lookup_of_keys {a b : List (String × J)} (h : a.map (·.1) = b.map (·.1)) (k : String) :
    (lookup k a).isSome = (lookup k b).isSome := by
  rw [Bool.eq_iff_iff, lookup_isSome_iff, lookup_isSome_iff, h]

theorem lookup_append (k : String) (a b : List (String × J)) :
    lookup k (a ++ b) = (lookup k a).or (lookup k b) := by
  simp only [lookup_eq, List.lookup_append]

theorem lookup_filter_pos (P : String → Bool) (k : String) (kvs : List (String × J)) (h : P k = true) :
    lookup k (kvs.filter fun kv => P kv.1) = lookup k kvs := by
  fun_induction lookup k kvs with
  | case1 => rfl
  | case2 v rest => simp [h, lookup]
  | case3 k' v rest hk ih => by_cases hp : P k' = true <;> simp [hp, lookup, hk, ih]

theorem lookup_filter_neg (P : String → Bool) (k : String) (kvs : List (String × J)) (h : P k = false) :
    lookup k (kvs.filter fun kv => P kv.1) = none := by
  rw [lookup_eq_none_iff]
  intro hm
  simp only [List.mem_map, List.mem_filter] at hm
  obtain ⟨kv, ⟨_, hp⟩, rfl⟩ := hm
  simp [h] at hp

theorem lookup_map (f : String → J → J) (k : String) (kvs : List (String × J)) :
    lookup k (kvs.map fun kv => (kv.1, f kv.1 kv.2)) = (lookup k kvs).map (f k) := by
  fun_induction lookup k kvs with
  | case1 => rfl
  | case2 v rest => simp [lookup]
  | case3 k' v rest h ih => simpa [lookup, h] using ih

theorem lookup_setKv (k k₂ : String) (v : J) (kvs : List (String × J)) :
    lookup k₂ (setKv k v kvs) = if k = k₂ then some v else lookup k₂ kvs := by
  fun_induction setKv k v kvs with
  | case1 => rfl
  | case2 v' rest => by_cases h : k = k₂ <;> simp [lookup, h]
  | case3 k' v' rest hk ih =>
    by_cases h : k = k₂
    · subst h; simp [lookup, ih, hk]
    · simp [lookup, ih, h]

theorem lookup_setKv_self (k : String) (v : J) (kvs : List (String × J)) :
    lookup k (setKv k v kvs) = some v := by
  rw [lookup_setKv, if_pos rfl]

theorem lookup_setKv_ne (k k₂ : String) (v : J) (kvs : List (String × J)) (h : k₂ ≠ k) :
    lookup k₂ (setKv k v kvs) = lookup k₂ kvs := by
  rw [lookup_setKv, if_neg h.symm]

theorem lookup_eraseKv (k k₂ : String) (kvs : List (String × J)) :
    lookup k₂ (eraseKv k kvs) = if k = k₂ then none else lookup k₂ kvs := by
  fun_induction eraseKv k kvs with
  | case1 => simp
  | case2 v' rest ih => rw [ih, lookup_cons]; split <;> rfl
  | case3 k' v' rest hk ih =>
    by_cases h : k = k₂
    · subst h; simp [lookup, ih, hk]
    · simp [lookup, ih, h]

theorem lookup_eraseKv_self (k : String) (kvs : List (String × J)) :
    lookup k (eraseKv k kvs) = none := by
  rw [lookup_eraseKv, if_pos rfl]

theorem lookup_eraseKv_ne (k k₂ : String) (kvs : List (String × J)) (h : k₂ ≠ k) :
    lookup k₂ (eraseKv k kvs) = lookup k₂ kvs := by
  rw [lookup_eraseKv, if_neg h.symm]

theorem mem_setKv {k : String} {v : J} {l : List (String × J)} {kv : String × J}
    (h : kv ∈ setKv k v l) : kv = (k, v) ∨ kv ∈ l := by
  fun_induction setKv k v l with
  | case1 => exact .inl (List.mem_singleton.1 h)
  | case2 v' rest => exact (List.mem_cons.1 h).imp_right (List.mem_cons_of_mem _)
  | case3 k' v' rest hk ih =>
    rcases List.mem_cons.1 h with h | h
    · exact .inr (h ▸ List.mem_cons_self)
    · exact (ih h).imp_right (List.mem_cons_of_mem _)

theorem map_setKv_of_lookup {α} (g : String × J → α) (k : String) (v v₀ : J) (kvs : List (String × J))
    (h : lookup k kvs = some v₀) (hg : g (k, v) = g (k, v₀)) :
    (setKv k v kvs).map g = kvs.map g := by
  fun_induction setKv k v kvs with
  | case1 => cases h
  | case2 v' rest =>
    rw [lookup_cons, if_pos rfl] at h
    cases h
    simp [hg]
  | case3 k' v' rest hk ih =>
    rw [lookup_cons, if_neg hk] at h
    simp [ih h]

theorem map_fst_setKv_of_not_mem (k : String) (v : J) (kvs : List (String × J)) (h : k ∉ kvs.map (·.1)) :
    (setKv k v kvs).map (·.1) = kvs.map (·.1) ++ [k] := by
  fun_induction setKv k v kvs with
  | case1 => rfl
  | case2 v' rest => exact absurd List.mem_cons_self h
  | case3 k' v' rest hk ih => simp [ih fun hm => h (List.mem_cons_of_mem _ hm)]

theorem eraseKv_of_lookup_none (k : String) (kvs : List (String × J)) (h : lookup k kvs = none) :
    eraseKv k kvs = kvs := by
  fun_induction eraseKv k kvs with
  | case1 => rfl
  | case2 v' rest => rw [lookup_cons, if_pos rfl] at h; cases h
  | case3 k' v' rest hk ih => rw [lookup_cons, if_neg hk] at h; rw [ih h]

theorem eraseKv_setKv_self (k : String) (v : J) (kvs : List (String × J)) :
    eraseKv k (setKv k v kvs) = eraseKv k kvs := by
  fun_induction setKv k v kvs with
  | case1 => simp [eraseKv]
  | case2 v' rest => simp [eraseKv]
  | case3 k' v' rest h ih => simp [eraseKv, h, ih]

theorem setKv_setKv (t : String) (x y : J) (m : List (String × J)) : setKv t x (setKv t y m) = setKv t x m := by
  fun_induction setKv t y m with
  | case1 => simp [setKv]
  | case2 v' rest => simp [setKv]
  | case3 k' v' rest hk ih => simp [setKv, hk, ih]

/-- writes to different keys commute when `b`, written first on the left, is present (else the appended entries
    would come in the other order) -/
theorem setKv_comm (a b : String) (x y c : J) (m : List (String × J)) (hab : a ≠ b) (hb : lookup b m = some c) :
    setKv a x (setKv b y m) = setKv b y (setKv a x m) := by
  fun_induction setKv b y m with
  | case1 => cases hb
  | case2 v' rest => simp [setKv, hab.symm]
  | case3 k' v' rest hk ih =>
    rw [lookup_cons, if_neg hk] at hb
    by_cases hka : k' = a
    · subst hka; simp [setKv, hk]
    · simp [setKv, hk, hka, ih hb]

theorem get?_set_self (j : J) (k : String) (v : J) (h : j.isObj = true) :
    (j.set k v).get? k = some v := by
  cases j <;> simp_all [isObj, set, get?, lookup_setKv_self]

theorem get?_set_ne (j : J) (k k₂ : String) (v : J) (h : k₂ ≠ k) :
    (j.set k v).get? k₂ = j.get? k₂ := by
  cases j <;> simp [set, get?, lookup_setKv_ne _ _ _ _ h]

theorem get?_erase (j : J) (k k₂ : String) : (j.erase k).get? k₂ = if k = k₂ then none else j.get? k₂ := by
  cases j <;> simp [erase, get?, lookup_eraseKv]

theorem erase_set_self (j : J) (k : String) (v : J) : (j.set k v).erase k = j.erase k := by
  cases j <;> simp [set, erase, eraseKv_setKv_self]

theorem isObj_set (j : J) (k : String) (v : J) : (j.set k v).isObj = j.isObj := by
  cases j <;> rfl

theorem isObj_iff (j : J) : j.isObj = true ↔ ∃ kvs, j = .obj kvs := by
  cases j <;> simp [isObj]

theorem isObj_of_get? {j : J} {k : String} {v : J} (h : j.get? k = some v) : j.isObj = true := by
  cases j <;> simp_all [get?, isObj]

theorem isObj_of_getStr {j : J} {k : String} (h : j.getStr k ≠ "") : j.isObj = true := by
  cases j <;> simp_all [getStr, get?, isObj]

theorem set_of_not_isObj (j : J) (h : ¬ j.isObj = true) (k : String) (v : J) : j.set k v = j := by
  cases j <;> simp_all [set, isObj]

theorem getStr_congr (a b : J) (k : String) (h : a.get? k = b.get? k) : a.getStr k = b.getStr k := by
  unfold getStr; rw [h]

theorem getObj_congr (a b : J) (k : String) (h : a.get? k = b.get? k) : a.getObj k = b.getObj k := by
  unfold getObj; rw [h]

theorem getArr_congr (a b : J) (k : String) (h : a.get? k = b.get? k) : a.getArr k = b.getArr k := by
  unfold getArr; rw [h]

theorem getStrs_congr (a b : J) (k : String) (h : a.get? k = b.get? k) : a.getStrs k = b.getStrs k := by
  unfold getStrs; rw [getArr_congr a b k h]

theorem getObj_of_not_obj (j : J) (k : String) (h : j.isObj = false) : j.getObj k = [] := by
  cases j <;> simp_all [isObj, getObj, get?]

theorem getObj_of_get?_none (j : J) (k : String) (h : j.get? k = none) : j.getObj k = [] := by
  unfold getObj; rw [h]

theorem erase_of_get?_none (j : J) (k : String) (h : j.get? k = none) : j.erase k = j := by
  cases j with
  | obj kvs => exact congrArg J.obj (eraseKv_of_lookup_none k kvs h)
  | _ => rfl

theorem getStr_of_not_str {j c : J} {k : String} (h : j.get? k = some c) (hc : ∀ s, c ≠ .str s) : j.getStr k = "" := by
  unfold getStr
  rw [h]
  cases c <;> first | rfl | exact absurd rfl (hc _)

theorem getStr_set_self (j : J) (k s : String) (h : j.isObj = true) :
    (j.set k (.str s)).getStr k = s := by
  unfold getStr; rw [get?_set_self _ _ _ h]

theorem getStr_set_ne (j : J) (k k₂ : String) (v : J) (h : k₂ ≠ k) :
    (j.set k v).getStr k₂ = j.getStr k₂ := by
  unfold getStr; rw [get?_set_ne _ _ _ _ h]

theorem getObj_set_self (j : J) (k : String) (kvs : List (String × J)) (h : j.isObj = true) :
    (j.set k (.obj kvs)).getObj k = kvs := by
  unfold getObj; rw [get?_set_self _ _ _ h]

theorem getObj_set_ne (j : J) (k k₂ : String) (v : J) (h : k₂ ≠ k) :
    (j.set k v).getObj k₂ = j.getObj k₂ := by
  unfold getObj; rw [get?_set_ne _ _ _ _ h]

theorem getArr_set_self (j : J) (k : String) (xs : List J) (h : j.isObj = true) :
    (j.set k (.arr xs)).getArr k = xs := by
  unfold getArr; rw [get?_set_self _ _ _ h]

theorem getArr_set_ne (j : J) (k k₂ : String) (v : J) (h : k₂ ≠ k) :
    (j.set k v).getArr k₂ = j.getArr k₂ := by
  unfold getArr; rw [get?_set_ne _ _ _ _ h]

theorem getObj_of_mem {j : J} {k : String} {kv : String × J} (h : kv ∈ j.getObj k) :
    ∃ kvs, j.get? k = some (.obj kvs) ∧ j.getObj k = kvs := by
  unfold getObj at h ⊢
  split at h
  · exact ⟨_, ‹_›, rfl⟩
  · cases h

theorem getArr_of_mem {j : J} {k : String} {x : J} (h : x ∈ j.getArr k) :
    ∃ xs, j.get? k = some (.arr xs) ∧ j.getArr k = xs := by
  unfold getArr at h ⊢
  split at h
  · exact ⟨_, ‹_›, rfl⟩
  · cases h

theorem mapObj_comp (f h : String → J → J) : mapObj f ∘ mapObj h = mapObj fun k => f k ∘ h k := by
  funext j
  cases j <;> simp [mapObj, List.map_map, Function.comp_def]

theorem mapObj_id (j : J) : mapObj (fun _ v => v) j = j := by
  cases j <;> simp [mapObj]

theorem get?_mapObj (f : String → J → J) (k : String) (j : J) :
    (mapObj f j).get? k = (j.get? k).map (f k) := by
  cases j <;> simp [mapObj, get?, lookup_map]

theorem isObj_mapObj (f : String → J → J) (j : J) : (mapObj f j).isObj = j.isObj := by
  cases j <;> rfl

theorem getObj_mapObj (F : String → J → J) (G : String → J → J) (k : String) (j : J)
    (hF : F k = mapObj G) :
    (mapObj F j).getObj k = (j.getObj k).map fun kv => (kv.1, G kv.1 kv.2) := by
  unfold getObj
  rw [get?_mapObj, hF]
  cases h : j.get? k with
  | none => simp
  | some v => cases v <;> simp [mapObj]

theorem getObj_mapObj_id (F : String → J → J) (k : String) (j : J) (hF : F k = id) :
    (mapObj F j).getObj k = j.getObj k := by
  unfold getObj
  rw [get?_mapObj, hF]
  cases h : j.get? k <;> simp

theorem getStr_mapObj_id (F : String → J → J) (k : String) (j : J) (hF : F k = id) :
    (mapObj F j).getStr k = j.getStr k := by
  unfold getStr
  rw [get?_mapObj, hF]
  cases h : j.get? k <;> simp

theorem sel_pos (p : String → Bool) (g : J → J) (k : String) (h : p k = true) : sel p g k = g := by
  funext v; simp [sel, h]

theorem sel_neg (p : String → Bool) (g : J → J) (k : String) (h : p k = false) : sel p g k = id := by
  funext v; simp [sel, h]

theorem sel_comp (p : String → Bool) (g h : J → J) (k : String) : sel p g k ∘ sel p h k = sel p (g ∘ h) k := by
  funext v
  unfold sel
  split <;> rfl

theorem filter_getObj_mapObj (F : String → J → J) (p : String → Bool) (g : J → J) (k : String) (j : J)
    (hF : F k = mapObj (sel p g)) :
    ((mapObj F j).getObj k).filter (fun kv => p kv.1) =
      ((j.getObj k).filter fun kv => p kv.1).map fun kv => (kv.1, g kv.2) := by
  rw [getObj_mapObj F (sel p g) k j hF, List.filter_map]
  apply List.map_congr_left
  intro kv hkv
  rw [sel_pos p g kv.1 (List.mem_filter.mp hkv).2]

theorem beq_sound :
    (∀ a b : J, beq a b = true → a = b) ∧ (∀ a b : List (String × J), beqKvs a b = true → a = b) ∧
      ∀ a b : List J, beqList a b = true → a = b := by
  apply beq.mutual_induct (motive_1 := fun a b => beq a b = true → a = b)
    (motive_2 := fun a b => beqKvs a b = true → a = b) (motive_3 := fun a b => beqList a b = true → a = b)
  case case1 => intro _; rfl
  case case2 => intro a b h; rw [eq_of_beq (show (a == b) = true from h)]
  case case3 => intro a b h; rw [eq_of_beq (show (a == b) = true from h)]
  case case4 => intro a b h; rw [eq_of_beq (show (a == b) = true from h)]
  case case5 => intro a b ih h; rw [ih (by simpa only [beq] using h)]
  case case6 => intro a b ih h; rw [ih (by simpa only [beq] using h)]
  case case7 => intro t x h1 h2 h3 h4 h5 h6 h; rw [beq.eq_7 t x h1 h2 h3 h4 h5 h6] at h; cases h
  case case8 => intro _; rfl
  case case9 =>
    intro a as b bs ih1 ih2 h
    simp only [beqList, Bool.and_eq_true] at h
    rw [ih1 h.1, ih2 h.2]
  case case10 => intro t x h1 h2 h; rw [beqList.eq_3 t x h1 h2] at h; cases h
  case case11 => intro _; rfl
  case case12 =>
    intro k a as l b bs ih1 ih2 h
    simp only [beqKvs, Bool.and_eq_true, beq_iff_eq] at h
    rw [h.1.1, ih1 h.1.2, ih2 h.2]
  case case13 => intro t x h1 h2 h; rw [beqKvs.eq_3 t x h1 h2] at h; cases h

theorem beq_eq : ∀ (a b : J), beq a b = true → a = b := beq_sound.1

theorem beqList_eq : ∀ (a b : List J), beqList a b = true → a = b := beq_sound.2.2

theorem beqKvs_eq : ∀ (a b : List (String × J)), beqKvs a b = true → a = b := beq_sound.2.1

mutual
  theorem beq_refl : ∀ (a : J), beq a a = true
    | .null => rfl
    | .bool a => by simp [beq]
    | .num a => by simp [beq]
    | .str a => by simp [beq]
    | .arr a => by simp only [beq]; exact beqList_refl a
    | .obj a => by simp only [beq]; exact beqKvs_refl a
  theorem beqList_refl : ∀ (a : List J), beqList a a = true
    | [] => rfl
    | x :: xs => by simp only [beqList, Bool.and_eq_true]; exact ⟨beq_refl x, beqList_refl xs⟩
  theorem beqKvs_refl : ∀ (a : List (String × J)), beqKvs a a = true
    | [] => rfl
    | (k, x) :: xs => by
      simp only [beqKvs, Bool.and_eq_true, beq_self_eq_true, true_and]; exact ⟨beq_refl x, beqKvs_refl xs⟩
end

-- there is no `LawfulBEq J`: this is the bridge from `==` on `J` to `=`
theorem beq_iff (a b : J) : (a == b) = true ↔ a = b :=
  ⟨beq_eq a b, fun h => h ▸ beq_refl a⟩

theorem sizeOf_obj_mem {kvs : List (String × J)} {kv : String × J} (h : kv ∈ kvs) :
    sizeOf kv.2 < sizeOf (J.obj kvs) := by
  have := List.sizeOf_lt_of_mem h
  cases kv; simp at this ⊢; omega

theorem sizeOf_arr_mem {xs : List J} {x : J} (h : x ∈ xs) : sizeOf x < sizeOf (J.arr xs) := by
  have := List.sizeOf_lt_of_mem h
  simp; omega

theorem strongInduction {motive : J → Prop}
    (h : ∀ j, (∀ c, sizeOf c < sizeOf j → motive c) → motive j) : ∀ j, motive j := by
  intro j
  induction hn : sizeOf j using Nat.strongRecOn generalizing j with
  | _ n ih =>
    apply h
    intro c hc
    exact ih (sizeOf c) (hn ▸ hc) c rfl

end J
