import Verif.Proofs.Pointer
import Verif.Proofs.IndexDoc

/-!
  C12 `once`: the token paths of the indexed schemas are pairwise distinct.  One invariant, `Under base X` (the positions
  of `X` lie below `base` at distinct paths), follows the traversal: at every level the positions come in blocks below
  pairwise distinct tokens of a common base (`Under.blocks`).  The document itself is such a tree (`docSections`) once
  `allSchemas d`, which is grouped by kind of holder, is regrouped by path (`allSchemas_perm`).  Assembled in
  `C12.once`.  (`respOf`, `opsOf`: IndexDoc.lean.)
-/

namespace PointerProof
open J Spec.Index IndexProof C12

def Under (base : List String) (X : List Pos) : Prop := (∀ p ∈ X, base <+: p.1) ∧ (X.map (·.1)).Nodup

theorem Under.nil (base : List String) : Under base [] := ⟨nofun, .nil⟩

theorem Under.mono {b b' : List String} {X : List Pos} (h : b' <+: b) (hX : Under b X) : Under b' X :=
  ⟨fun p hp => h.trans (hX.1 p hp), hX.2⟩

theorem Under.ite {c : Prop} [Decidable c] {b : List String} {X : List Pos} (hX : Under b X) :
    Under b (if c then X else []) := by
  split
  · exact hX
  · exact .nil b

/-- blocks below pairwise distinct tokens of `base` are disjoint: the token after `base` tells them apart -/
theorem Under.blocks {α} {base : List String} {key : α → String} {l : List α} {G : α → List Pos}
    (hk : (l.map key).Nodup) (h : ∀ a ∈ l, Under (base ++ [key a]) (G a)) : Under base (l.flatMap G) := by
  refine ⟨fun p hp => ?_, ?_⟩
  · obtain ⟨a, ha, hp⟩ := List.mem_flatMap.1 hp
    exact (List.prefix_append _ _).trans ((h a ha).1 p hp)
  · rw [List.map_flatMap]
    refine List.nodup_flatMap_disc l key (fun p => p[base.length]?.getD "") _ hk ?_ fun a ha => (h a ha).2
    intro a ha p hp
    obtain ⟨q, hq, rfl⟩ := List.mem_map.1 hp
    obtain ⟨t, e⟩ := (h a ha).1 q hq
    simp [← e]

theorem Under.cons_blocks {α} {base : List String} {key : α → String} {l : List α} {G : α → List Pos}
    (hk : (l.map key).Nodup) (h : ∀ a ∈ l, Under (base ++ [key a]) (G a)) (j : J) :
    Under base ((base, j) :: l.flatMap G) := by
  obtain ⟨h1, h2⟩ := Under.blocks hk h
  refine ⟨List.forall_mem_cons.2 ⟨List.prefix_refl _, h1⟩, List.nodup_cons.2 ⟨fun hmem => ?_, h2⟩⟩
  -- the paths in the blocks are strictly longer than `base`
  obtain ⟨q, hq, e⟩ := List.mem_map.1 hmem
  obtain ⟨a, ha, hq⟩ := List.mem_flatMap.1 hq
  have := ((h a ha).1 q hq).length_le
  simp [e] at this
  omega

theorem nodup_zipIdx_keys {α : Type} (xs : List α) (i : Nat) :
    ((xs.zipIdx i).map fun xn => toString xn.2).Nodup := by
  have : ((xs.zipIdx i).map (·.2)).Nodup := by rw [List.zipIdx_map_snd]; exact List.nodup_range'
  have := this.map_inj (f := toString) fun _ _ => toString_inj
  rwa [List.map_map] at this

theorem under_schemasAt : ∀ (j : J) (toks : List String), NodupKeys j → Under toks (schemasAt toks j) := by
  intro j
  induction j using J.strongInduction with
  | h j ih =>
    intro toks hj
    cases j with
    | obj kvs =>
      obtain ⟨hn, hp⟩ := hj.obj_inv
      rw [schemasAt_obj]
      refine Under.cons_blocks (key := (·.1)) hn (fun kv hkv => ?_) _
      have hs := sizeOf_obj_mem hkv
      have hc := hp kv hkv
      rcases kidOf_cases toks kv.1 kv.2 with ⟨_, m, hm, e⟩ | ⟨_, xs, hx, e⟩ | ⟨_, _, _, e⟩ | e <;> rw [e]
      · rw [hm] at hs hc
        exact .blocks (key := (·.1)) hc.obj_inv.1 fun kv' hkv' =>
          ih kv'.2 (Nat.lt_trans (sizeOf_obj_mem hkv') hs) _ (hc.obj_inv.2 kv' hkv')
      · rw [hx] at hs hc
        refine .blocks (key := fun xn : J × Nat => toString xn.2) (nodup_zipIdx_keys xs 0) fun xn hxn => ?_
        have hmem : xn.1 ∈ xs := List.mem_of_getElem? (List.mem_zipIdx_iff_getElem?.1 hxn)
        exact ih xn.1 (Nat.lt_trans (sizeOf_arr_mem hmem) hs) _ (hc.arr_inv _ hmem)
      · exact ih kv.2 hs _ hc
      · exact .nil _
    | _ => exact .nil _

theorem under_schemaOf (q : Pos) (h : NodupKeys q.2) : Under (q.1 ++ ["schema"]) (Spec.Index.schemaOf q) := by
  unfold Spec.Index.schemaOf
  split
  · exact under_schemasAt _ _ (h.get? ‹_›)
  · exact .nil _

def bodySchemas (holder : Pos) : List Pos :=
  ((paramsOf holder).filter fun p => p.2.getStr "in" = "body").flatMap Spec.Index.schemaOf

theorem under_bodySchemas (holder : Pos) (h : NodupKeys holder.2) :
    Under (holder.1 ++ ["parameters"]) (bodySchemas holder) := by
  unfold bodySchemas paramsOf
  rw [List.flatMap_filter', List.flatMap_map]
  refine .blocks (key := fun ip : Nat × J => toString ip.1) ?_ fun ip hip => .ite ?_
  · simpa [Spec.Index.indexed, Function.comp_def] using nodup_zipIdx_keys (holder.2.getArr "parameters") 0
  · exact (under_schemaOf _ (h.getArr _ _ (List.mem_of_getElem? (getElem?_of_mem_indexed hip)))).mono
      ⟨["schema"], by simp⟩

def respSchemas (holder : Pos) : List Pos := (respOf holder).flatMap Spec.Index.schemaOf

theorem under_respSchemas (holder : Pos) (h : NodupKeys holder.2) :
    Under (holder.1 ++ ["responses"]) (respSchemas holder) := by
  unfold respSchemas respOf
  rw [List.flatMap_map]
  obtain ⟨hn, hp⟩ := h.getObj "responses"
  exact .blocks (key := (·.1)) ((List.filter_sublist.map _).nodup hn) fun kv hkv =>
    (under_schemaOf _ (hp kv (List.mem_filter.1 hkv).1)).mono ⟨["schema"], by simp⟩

def opSchemas (o : Pos) : List Pos := bodySchemas o ++ respSchemas o

theorem under_opSchemas (o : Pos) (h : NodupKeys o.2) : Under o.1 (opSchemas o) := by
  have := Under.blocks (base := o.1) (key := (·.1)) (G := (·.2))
    (l := [("parameters", bodySchemas o), ("responses", respSchemas o)]) (by simp) (by simp [under_bodySchemas o h, under_respSchemas o h])
  simpa [opSchemas] using this

def pathItemSchemas (kv : String × J) : List Pos :=
  bodySchemas (["paths", kv.1], kv.2) ++ (opsOf kv.1 kv.2).flatMap fun o => opSchemas o.2.2

theorem under_pathItemSchemas (kv : String × J) (h : NodupKeys kv.2) :
    Under ["paths", kv.1] (pathItemSchemas kv) := by
  have := Under.blocks (base := ["paths", kv.1]) (key := (·.1)) (G := (·.2))
    (l := ("parameters", bodySchemas (["paths", kv.1], kv.2)) :: Doc.methods.map fun m =>
      (m, match kv.2.get? m with
          | some op => opSchemas (["paths", kv.1, m], op)
          | none => []))
    (by simp [Doc.methods]) <| by
      intro b hb
      rcases List.mem_cons.1 hb with rfl | hb
      · exact under_bodySchemas _ h
      · obtain ⟨m, _, rfl⟩ := List.mem_map.1 hb
        cases hget : kv.2.get? m with
        | none => exact .nil _
        | some op => exact under_opSchemas (["paths", kv.1, m], op) (h.get? hget)
  rw [List.flatMap_cons, List.flatMap_map] at this
  unfold pathItemSchemas
  rw [flatMap_opsOf]
  exact this

theorem under_section {d : J} (hd : NodupKeys d) (sec : String) {src : List (String × J)}
    (hsub : src.Sublist (d.getObj sec)) {G : String × J → List Pos}
    (hG : ∀ kv, NodupKeys kv.2 → Under [sec, kv.1] (G kv)) : Under [sec] (src.flatMap G) := by
  obtain ⟨hn, hp⟩ := hd.getObj sec
  exact .blocks (key := fun kv : String × J => kv.1) ((hsub.map _).nodup hn) fun kv hkv =>
    hG kv (hp kv (hsub.subset hkv))

def docSections (d : J) : List (String × List Pos) :=
  [("paths", (Doc.pathItems d).flatMap pathItemSchemas),
   ("parameters", (d.getObj "parameters").flatMap fun kv =>
      if kv.2.getStr "in" = "body" then Spec.Index.schemaOf (["parameters", kv.1], kv.2) else []),
   ("responses", (d.getObj "responses").flatMap fun kv => Spec.Index.schemaOf (["responses", kv.1], kv.2)),
   ("definitions", (d.getObj "definitions").flatMap fun kv => schemasAt ["definitions", kv.1] kv.2)]

theorem allSchemas_perm (d : J) : (allSchemas d).Perm ((docSections d).flatMap (·.2)) := by
  refine List.perm_of_count fun a => ?_
  unfold allSchemas docSections pathItemSchemas opSchemas bodySchemas respSchemas listedParams sharedParams
    sharedResponses
  simp only [opResponses_eq, operations_eq, List.flatMap_cons, List.flatMap_nil, List.append_nil, List.filter_append,
    List.flatMap_append, List.filter_map, List.flatMap_map, List.flatMap_ite_filter, ← List.filter_flatMap,
    ← List.flatMap_assoc, Function.comp_def, List.count_flatMap_append, List.count_append]
  omega

end PointerProof
