import Verif.Proofs.MixinParts

/-!
  C17: what one iteration of the loop over mixins (`Mixin.step`) does to every part of the
  accumulated document.  After `mergeSwaggerProps` an iteration is a sequence of ten merges, each
  rewriting one field of the document and reading only that field, so each acts as if it ran first
  (`Stage`, `runStages_spec`).  `StepFacts` is what the loop invariants use of an iteration.
-/

namespace Proofs.Mixin
open J Spec.Mixin

theorem mergeList_eq (k : String) (same : J → J → Bool) (p m : J) :
    Mixin.mergeList k same p m =
      (if (unionNew same (p.getArr k) (m.getArr k)).isEmpty then p
       else p.set k (.arr (unionNew same (p.getArr k) (m.getArr k))),
       (Mixin.appendNew same (p.getArr k) (m.getArr k)).2) := by
  unfold Mixin.mergeList
  rw [← appendNew_fst]

theorem mergeList_getArr (k : String) (same : J → J → Bool) (p m : J) (hp : p.isObj = true) :
    (Mixin.mergeList k same p m).1.getArr k = unionNew same (p.getArr k) (m.getArr k) := by
  rw [mergeList_eq]
  by_cases h : (unionNew same (p.getArr k) (m.getArr k)).isEmpty = true
  · -- nothing to store: the field was empty already
    have h1 := unionNew_length_ge same (p.getArr k) (m.getArr k)
    rw [if_pos h]
    rw [List.isEmpty_iff.1 h] at h1 ⊢
    exact List.length_eq_zero_iff.1 (Nat.le_zero.1 h1)
  · rw [if_neg h]; exact getArr_set_self _ _ _ hp

theorem mergeList_dups (k : String) (same : J → J → Bool) (p m : J) :
    (unionNew same (p.getArr k) (m.getArr k)).length + (Mixin.mergeList k same p m).2.length =
      (p.getArr k).length + (m.getArr k).length := by
  rw [mergeList_eq]; exact appendNew_length _ _ _

theorem mergeKeyed_eq (sect cat : String) (p m : J) :
    Mixin.mergeKeyed sect cat p m =
      (if (fw allKeys (p.getObj sect) (m.getObj sect)).1.isEmpty then p
       else p.set sect (.obj (fw allKeys (p.getObj sect) (m.getObj sect)).1),
       (fw allKeys (p.getObj sect) (m.getObj sect)).2.map fun k => (cat, k)) := by
  unfold Mixin.mergeKeyed
  rw [mergeKeyedKvs_eq]

theorem mergeKeyed_isObj (sect cat : String) (p m : J) :
    (Mixin.mergeKeyed sect cat p m).1.isObj = p.isObj := by
  rw [mergeKeyed_eq]
  split
  · rfl
  · exact isObj_set _ _ _

theorem mergeKeyed_get?_ne (sect cat k₂ : String) (p m : J) (h : k₂ ≠ sect) :
    (Mixin.mergeKeyed sect cat p m).1.get? k₂ = p.get? k₂ := by
  rw [mergeKeyed_eq]
  split
  · rfl
  · exact get?_set_ne _ _ _ _ h

theorem mergeKeyed_getObj (sect cat : String) (p m : J) (hp : p.isObj = true) :
    (Mixin.mergeKeyed sect cat p m).1.getObj sect = (fw allKeys (p.getObj sect) (m.getObj sect)).1 := by
  rw [mergeKeyed_eq]
  by_cases h : (fw allKeys (p.getObj sect) (m.getObj sect)).1.isEmpty = true
  · rw [if_pos h, List.isEmpty_iff.1 h, eq_nil_of_fw_isEmpty _ _ _ h]
  · rw [if_neg h]; exact getObj_set_self _ _ _ hp

theorem mergeKeyed_warns (sect cat : String) (p m : J) :
    (Mixin.mergeKeyed sect cat p m).2.length = (fw allKeys (p.getObj sect) (m.getObj sect)).2.length := by
  rw [mergeKeyed_eq]; simp

theorem stripOpIds_set (pi op : J) (m : String) (v : J) (hm : Doc.isMethodKey m = true)
    (h : pi.get? m = some op) : stripOpIds (pi.set m (op.set "operationId" v)) = stripOpIds pi := by
  cases pi with
  | obj kvs =>
    show mapObj _ (J.obj (setKv m _ kvs)) = mapObj _ (J.obj kvs)
    simp only [mapObj]
    congr 1
    apply map_setKv_of_lookup _ _ _ _ _ h
    simp only [sel, hm, if_true, erase_set_self]
  | _ => rfl

theorem renameOps_strip (f : Facts) (hm : ∀ m ∈ f.mixinMethods, Doc.isMethodKey m = true)
    (idx : Nat) (ids : List String) (pi : J) :
    stripOpIds (Mixin.renameOps f idx ids pi).1 = stripOpIds pi := by
  unfold Mixin.renameOps
  have hks : ∀ m ∈ Mixin.opKeys f pi, Doc.isMethodKey m = true := fun m hmem => hm m (List.mem_filter.1 hmem).1
  -- every round of the loop keeps the path item up to operation ids
  generalize Mixin.opKeys f pi = ks at hks
  change stripOpIds (ks.foldl _ (pi, ids)).1 = stripOpIds (pi, ids).1
  generalize (pi, ids) = acc
  induction ks generalizing acc with
  | nil => rfl
  | cons m ks ih =>
    simp only [List.foldl_cons]
    rw [ih (fun m' hm' => hks m' (List.mem_cons_of_mem _ hm'))]
    split
    · rename_i op hop
      split
      · rfl
      · exact stripOpIds_set _ _ _ _ (hks m (by simp)) hop
    · rfl

/-- the loop body of `mergePaths` -/
def pathsBody (f : Facts) (idx : Nat) (acc : Mixin.PathsAcc) (kv : String × J) : Mixin.PathsAcc :=
  if !Doc.isPathKey kv.1 then acc
  else if (lookup kv.1 acc.paths).isSome then { acc with warns := acc.warns ++ [("paths", kv.1)] }
  else
    { acc with paths := acc.paths ++ [(kv.1, (Mixin.renameOps f idx acc.ids kv.2).1)],
               ids := (Mixin.renameOps f idx acc.ids kv.2).2 }

theorem mergePaths_eq (f : Facts) (idx : Nat) (pp : List (String × J)) (ids : List String)
    (mp : List (String × J)) :
    Mixin.mergePaths f idx pp ids mp = mp.foldl (pathsBody f idx) ⟨pp, ids, []⟩ := by
  unfold Mixin.mergePaths
  -- the model's `let (pi', ids') := renameOps …` against `pathsBody`'s projections: eta for pairs
  congr 1

theorem pathsBody_skip (f : Facts) (idx : Nat) (acc : Mixin.PathsAcc) (kv : String × J)
    (hP : Doc.isPathKey kv.1 = false) : pathsBody f idx acc kv = acc := by
  simp [pathsBody, hP]

theorem pathsBody_hit (f : Facts) (idx : Nat) (acc : Mixin.PathsAcc) (kv : String × J)
    (hP : Doc.isPathKey kv.1 = true) (hs : (lookup kv.1 acc.paths).isSome = true) :
    pathsBody f idx acc kv = { acc with warns := acc.warns ++ [("paths", kv.1)] } := by
  simp [pathsBody, hP, hs]

theorem pathsBody_new (f : Facts) (idx : Nat) (acc : Mixin.PathsAcc) (kv : String × J)
    (hP : Doc.isPathKey kv.1 = true) (hs : (lookup kv.1 acc.paths).isSome = false) :
    pathsBody f idx acc kv =
      { acc with paths := acc.paths ++ [(kv.1, (Mixin.renameOps f idx acc.ids kv.2).1)],
                 ids := (Mixin.renameOps f idx acc.ids kv.2).2 } := by
  simp [pathsBody, hP, hs]

theorem keys_eq_of_map_eq {α : Type} {g : J → α} {a b : List (String × J)}
    (h : a.map (fun kv => (kv.1, g kv.2)) = b.map (fun kv => (kv.1, g kv.2))) : a.map (·.1) = b.map (·.1) := by
  simpa [List.map_map, Function.comp_def] using congrArg (List.map Prod.fst) h

/-- the loop of `mergePaths` is the generic first-wins fold over the path keys, after mapping the path
    items by any `g` that the renaming of operation ids does not change (`stripOpIds` for C17;
    `fun _ => ()` to speak of the keys alone) -/
theorem foldl_pathsBody_fw {α : Type} (f : Facts) (idx : Nat) (g : J → α)
    (hg : ∀ ids pi, g (Mixin.renameOps f idx ids pi).1 = g pi) (pk mp : List (String × J))
    (acc : Mixin.PathsAcc) (h : acc.paths.map (fun kv => (kv.1, g kv.2)) = pk.map (fun kv => (kv.1, g kv.2))) :
    (mp.foldl (pathsBody f idx) acc).paths.map (fun kv => (kv.1, g kv.2)) =
      (fw Doc.isPathKey pk mp).1.map (fun kv => (kv.1, g kv.2)) ∧
    (mp.foldl (pathsBody f idx) acc).warns =
      acc.warns ++ (fw Doc.isPathKey pk mp).2.map fun k => ("paths", k) := by
  fun_induction fw Doc.isPathKey pk mp generalizing acc with
  | case1 pk => simp [h]
  | case2 pk kv mp hP hs ih =>
    rw [List.foldl_cons, pathsBody_hit _ _ _ _ hP ((isSome_lookup_of_keys (keys_eq_of_map_eq h) _).trans hs)]
    simpa using ih { acc with warns := acc.warns ++ [("paths", kv.1)] } h
  | case3 pk kv mp hP hs ih =>
    rw [List.foldl_cons,
      pathsBody_new _ _ _ _ hP ((isSome_lookup_of_keys (keys_eq_of_map_eq h) _).trans (by simpa using hs))]
    exact ih _ (by simp [h, hg])
  | case4 pk kv mp hP ih =>
    rw [List.foldl_cons, pathsBody_skip _ _ _ _ (by simpa using hP)]
    exact ih acc h

theorem mergePaths_warns (f : Facts) (idx : Nat) (pp : List (String × J)) (ids : List String)
    (mp : List (String × J)) :
    (Mixin.mergePaths f idx pp ids mp).warns.length = (fw Doc.isPathKey pp mp).2.length := by
  rw [mergePaths_eq, (foldl_pathsBody_fw f idx (fun _ => ()) (fun _ _ => rfl) pp mp ⟨pp, ids, []⟩ rfl).2]; simp

/-- one of the merges `Mixin.step` performs after `mergeSwaggerProps`, rewriting the field `key` -/
structure Stage where
  key : String
  run : J → J × List Mixin.Warn

structure Stage.Local (s : Stage) : Prop where
  isObj : ∀ p, (s.run p).1.isObj = p.isObj
  frame : ∀ p k, k ≠ s.key → (s.run p).1.get? k = p.get? k
  reads : ∀ p q, p.isObj = true → q.isObj = true → p.get? s.key = q.get? s.key →
    (s.run p).1.get? s.key = (s.run q).1.get? s.key ∧ (s.run p).2 = (s.run q).2

def runStages (ss : List Stage) (a : J × List Mixin.Warn) : J × List Mixin.Warn :=
  ss.foldl (fun a s => ((s.run a.1).1, a.2 ++ (s.run a.1).2)) a

theorem runStages_frame (ss : List Stage) (hl : ∀ s ∈ ss, s.Local) (a : J × List Mixin.Warn) (k : String)
    (hk : k ∉ ss.map (·.key)) : (runStages ss a).1.get? k = a.1.get? k := by
  induction ss generalizing a with
  | nil => rfl
  | cons s ss ih =>
    rw [List.map_cons, List.mem_cons, not_or] at hk
    exact (ih (fun t ht => hl t (List.mem_cons_of_mem _ ht)) _ hk.2).trans
      ((hl s List.mem_cons_self).frame _ k hk.1)

/-- local stages with distinct fields do not see each other: each acts as on any object `q` that has
    the same fields under the stage keys -/
theorem runStages_spec (ss : List Stage) (hl : ∀ s ∈ ss, s.Local) (hnd : (ss.map (·.key)).Nodup)
    (p q : J) (hp : p.isObj = true) (hq : q.isObj = true) (hpq : ∀ s ∈ ss, p.get? s.key = q.get? s.key)
    (w : List Mixin.Warn) :
    (runStages ss (p, w)).1.isObj = true ∧
    (∀ s ∈ ss, (runStages ss (p, w)).1.get? s.key = (s.run q).1.get? s.key) ∧
    (runStages ss (p, w)).2 = w ++ ss.flatMap fun s => (s.run q).2 := by
  induction ss generalizing p w with
  | nil => simp [runStages, hp]
  | cons s ss ih =>
    have hs := hl s List.mem_cons_self
    have hl' : ∀ t ∈ ss, t.Local := fun t ht => hl t (List.mem_cons_of_mem _ ht)
    rw [List.map_cons, List.nodup_cons] at hnd
    have hsq := hs.reads p q hp hq (hpq s List.mem_cons_self)
    -- a later stage finds its field as it was before `s` ran
    obtain ⟨h1, h2, h3⟩ := ih hl' hnd.2 (s.run p).1 ((hs.isObj p).trans hp)
      (fun t ht => (hs.frame p _ fun e => hnd.1 (e ▸ List.mem_map_of_mem (f := (·.key)) ht)).trans
        (hpq t (List.mem_cons_of_mem _ ht)))
      (w ++ (s.run p).2)
    refine ⟨h1, fun t ht => ?_, ?_⟩
    · rcases List.mem_cons.1 ht with rfl | ht
      · exact (runStages_frame ss hl' _ _ hnd.1).trans hsq.1
      · exact h2 t ht
    · show (runStages ss _).2 = _
      rw [h3, List.flatMap_cons, List.append_assoc, hsq.2]

/-- a list field; `rep` turns the rejected duplicates into reports -/
def listStage (k : String) (same : J → J → Bool) (rep : List J → List Mixin.Warn) (m : J) : Stage :=
  ⟨k, fun p => ((Mixin.mergeList k same p m).1, rep (Mixin.mergeList k same p m).2)⟩

def keyedStage (sect : String) (m : J) : Stage := ⟨sect, fun p => Mixin.mergeKeyed sect sect p m⟩

def pathsStage (f : Facts) (idx : Nat) (ids : List String) (m : J) : Stage :=
  ⟨"paths", fun p =>
    (p.set "paths" (.obj (Mixin.mergePaths f idx (p.getObj "paths") ids (m.getObj "paths")).paths),
     (Mixin.mergePaths f idx (p.getObj "paths") ids (m.getObj "paths")).warns)⟩

theorem Stage.local_of_set (k : String) (c : J → Bool) (v : J → J) (w : J → List Mixin.Warn)
    (h : ∀ p q : J, p.get? k = q.get? k → c p = c q ∧ v p = v q ∧ w p = w q) :
    Stage.Local ⟨k, fun p => (if c p then p else p.set k (v p), w p)⟩ where
  isObj := fun p => by simp only; split <;> simp [isObj_set]
  frame := fun p k₂ hk => by simp only; split <;> simp [get?_set_ne _ _ _ _ hk]
  reads := fun p q hp hq e => by
    obtain ⟨hc, hv, hw⟩ := h p q e
    simp only [hc, hv, hw, and_true]
    split
    · exact e
    · rw [get?_set_self _ _ _ hp, get?_set_self _ _ _ hq]

theorem listStage_local (k : String) (same : J → J → Bool) (rep : List J → List Mixin.Warn) (m : J) :
    (listStage k same rep m).Local := by
  simp only [listStage, mergeList_eq]
  exact Stage.local_of_set k _ _ _ fun p q h => by rw [getArr_congr _ _ _ h]; exact ⟨rfl, rfl, rfl⟩

theorem keyedStage_local (sect : String) (m : J) : (keyedStage sect m).Local := by
  simp only [keyedStage, mergeKeyed_eq]
  exact Stage.local_of_set sect _ _ _ fun p q h => by rw [getObj_congr _ _ _ h]; exact ⟨rfl, rfl, rfl⟩

theorem pathsStage_local (f : Facts) (idx : Nat) (ids : List String) (m : J) :
    (pathsStage f idx ids m).Local :=
  Stage.local_of_set "paths" (fun _ => false) _ _ fun p q h => by rw [getObj_congr _ _ _ h]; exact ⟨rfl, rfl, rfl⟩

/-- the merges before `mergePaths`: `Mixin.step` passes it the paths of the document they leave -/
def earlyStages (m : J) : List Stage :=
  [listStage "consumes" (· == ·) (fun _ => []) m,
   listStage "produces" (· == ·) (fun _ => []) m,
   listStage "tags" Mixin.sameTag (List.map fun t => ("tags", t.getStr "name")) m,
   listStage "schemes" (· == ·) (fun _ => []) m,
   keyedStage "securityDefinitions" m,
   listStage "security" (· == ·) (List.map fun _ => ("security", "")) m,
   keyedStage "definitions" m]

/-- `Mixin.step` after `mergeSwaggerProps` -/
def stages (f : Facts) (idx : Nat) (ids : List String) (m : J) : List Stage :=
  earlyStages m ++ [pathsStage f idx ids m, keyedStage "parameters" m, keyedStage "responses" m]

theorem step_eq (f : Facts) (idx : Nat) (st : Mixin.St) (m : J) :
    Mixin.step f idx st m =
      (Mixin.mergeSwaggerProps f st.doc m).map fun r =>
        { doc := (runStages (stages f idx st.ids m) (r.1, st.warns ++ r.2)).1,
          ids := (Mixin.mergePaths f idx ((runStages (earlyStages m) (r.1, st.warns ++ r.2)).1.getObj "paths")
            st.ids (m.getObj "paths")).ids,
          warns := (runStages (stages f idx st.ids m) (r.1, st.warns ++ r.2)).2 } := by
  unfold Mixin.step
  cases Mixin.mergeSwaggerProps f st.doc m with
  | none => rfl
  | some r =>
    simp only [runStages, stages, earlyStages, listStage, keyedStage, pathsStage, List.cons_append, List.nil_append,
      List.foldl_cons, List.foldl_nil, List.append_nil]
    rfl

/-- the fields the ten `stages` rewrite, in order (not `Spec.Mixin.keyedSections`) -/
def sectionKeys : List String :=
  ["consumes", "produces", "tags", "schemes", "securityDefinitions", "security", "definitions",
   "paths", "parameters", "responses"]

theorem stages_keys (f : Facts) (idx : Nat) (ids : List String) (m : J) :
    (stages f idx ids m).map (·.key) = sectionKeys := rfl

theorem earlyStages_keys (m : J) : (earlyStages m).map (·.key) = sectionKeys.take 7 := rfl

theorem stages_local (f : Facts) (idx : Nat) (ids : List String) (m : J) :
    ∀ s ∈ stages f idx ids m, s.Local := by
  simp only [stages, earlyStages, List.cons_append, List.nil_append, List.forall_mem_cons, List.not_mem_nil,
    false_imp_iff, implies_true, and_true]
  exact ⟨listStage_local .., listStage_local .., listStage_local .., listStage_local .., keyedStage_local ..,
    listStage_local .., keyedStage_local .., pathsStage_local .., keyedStage_local .., keyedStage_local ..⟩

theorem sectionKeys_plain : PlainKeys sectionKeys := plainKeys_of_front (by decide)

theorem topKeys_notSection : ∀ k ∈ ["host", "basePath", "info", "externalDocs"], k ∉ sectionKeys := by
  simp [sectionKeys]

theorem sectionKeys_nodup : sectionKeys.Nodup := by simp [sectionKeys]

/-- one iteration, field by field: `p1, w1` is what `mergeSwaggerProps` returned -/
structure StepFacts (f : Facts) (idx : Nat) (st : Mixin.St) (m p1 : J) (w1 : List Mixin.Warn)
    (st' : Mixin.St) : Prop where
  props : PropsFacts st.doc m p1 w1
  isObj : st'.doc.isObj = true
  top : ∀ k, k ∉ sectionKeys → st'.doc.get? k = p1.get? k
  consumes : st'.doc.getArr "consumes" = unionNew (· == ·) (st.doc.getArr "consumes") (m.getArr "consumes")
  produces : st'.doc.getArr "produces" = unionNew (· == ·) (st.doc.getArr "produces") (m.getArr "produces")
  tags : st'.doc.getArr "tags" = unionNew sameTag (st.doc.getArr "tags") (m.getArr "tags")
  schemes : st'.doc.getArr "schemes" = unionNew (· == ·) (st.doc.getArr "schemes") (m.getArr "schemes")
  security : st'.doc.getArr "security" = unionNew (· == ·) (st.doc.getArr "security") (m.getArr "security")
  -- `keyed4` (MixinLoop.lean)
  keyed : ∀ sect ∈ ["definitions", "parameters", "responses", "securityDefinitions"],
    st'.doc.getObj sect = (fw allKeys (st.doc.getObj sect) (m.getObj sect)).1
  paths : st'.doc.getObj "paths" =
    (Mixin.mergePaths f idx (st.doc.getObj "paths") st.ids (m.getObj "paths")).paths
  ids : st'.ids = (Mixin.mergePaths f idx (st.doc.getObj "paths") st.ids (m.getObj "paths")).ids
  -- array lengths on the left: the duplicates reported are the elements offered minus those appended,
  -- and subtraction on `Nat` truncates
  warns : st'.warns.length + (st'.doc.getArr "tags").length + (st'.doc.getArr "security").length =
    st.warns.length + w1.length
      + ((st.doc.getArr "tags").length + (m.getArr "tags").length)
      + ((st.doc.getArr "security").length + (m.getArr "security").length)
      + (fw allKeys (st.doc.getObj "securityDefinitions") (m.getObj "securityDefinitions")).2.length
      + (fw allKeys (st.doc.getObj "definitions") (m.getObj "definitions")).2.length
      + (fw Doc.isPathKey (st.doc.getObj "paths") (m.getObj "paths")).2.length
      + (fw allKeys (st.doc.getObj "parameters") (m.getObj "parameters")).2.length
      + (fw allKeys (st.doc.getObj "responses") (m.getObj "responses")).2.length

theorem step_facts (f : Facts) (idx : Nat) (st : Mixin.St) (m : J) (st' : Mixin.St)
    (h : Mixin.step f idx st m = some st') (hp : st.doc.isObj = true) :
    ∃ p1 w1, StepFacts f idx st m p1 w1 st' := by
  rw [step_eq] at h
  obtain ⟨⟨p1, w1⟩, hs, rfl⟩ := Option.map_eq_some_iff.1 h
  have pf := mergeSwaggerProps_facts f st.doc m p1 w1 hs hp
  -- `mergeSwaggerProps` leaves the sections alone, so every stage acts as on `st.doc`
  have fr : ∀ k ∈ sectionKeys, p1.get? k = st.doc.get? k := fun k hk =>
    pf.frame k (sectionKeys_plain k hk) fun hm => topKeys_notSection k hm hk
  obtain ⟨hobj, hsec, hw⟩ := runStages_spec (stages f idx st.ids m) (stages_local f idx st.ids m)
    (by rw [stages_keys]; exact sectionKeys_nodup) p1 st.doc pf.isObj hp
    (fun s hs => fr _ (stages_keys f idx st.ids m ▸ List.mem_map_of_mem hs)) (st.warns ++ w1)
  have htop := fun k (hk : k ∉ sectionKeys) =>
    runStages_frame (stages f idx st.ids m) (stages_local f idx st.ids m) (p1, st.warns ++ w1) k hk
  have hearly := runStages_frame (earlyStages m)
    (fun s hs => stages_local f idx st.ids m s (List.mem_append_left _ hs)) (p1, st.warns ++ w1) "paths"
    (by simp [earlyStages_keys, sectionKeys])
  generalize runStages (stages f idx st.ids m) (p1, st.warns ++ w1) = D at *
  simp only [stages, earlyStages, listStage, keyedStage, pathsStage, List.cons_append, List.nil_append,
    List.forall_mem_cons, List.not_mem_nil, false_imp_iff, implies_true, and_true] at hsec
  -- one clause per stage, in the order of `sectionKeys`
  obtain ⟨c1, c2, c3, c4, c5, c6, c7, c8, c9, c10⟩ := hsec
  have hA : ∀ k same, D.1.get? k = (Mixin.mergeList k same st.doc m).1.get? k →
      D.1.getArr k = unionNew same (st.doc.getArr k) (m.getArr k) := fun k same c =>
    (getArr_congr _ _ _ c).trans (mergeList_getArr k same st.doc m hp)
  have hK : ∀ k, D.1.get? k = (Mixin.mergeKeyed k k st.doc m).1.get? k →
      D.1.getObj k = (fw allKeys (st.doc.getObj k) (m.getObj k)).1 := fun k c =>
    (getObj_congr _ _ _ c).trans (mergeKeyed_getObj k k st.doc m hp)
  refine ⟨p1, w1, pf, hobj, htop, hA _ _ c1, hA _ _ c2, hA _ _ c3, hA _ _ c4, hA _ _ c6, ?_,
    (getObj_congr _ _ _ c8).trans (getObj_set_self _ _ _ hp), ?_, ?_⟩
  · simp only [List.forall_mem_cons, List.not_mem_nil, false_imp_iff, implies_true, and_true]
    exact ⟨hK _ c7, hK _ c9, hK _ c10, hK _ c5⟩
  · rw [getObj_congr _ _ _ (hearly.trans (fr "paths" (by simp [sectionKeys])))]
  · have e1 := mergeList_dups "tags" Mixin.sameTag st.doc m
    have e2 := mergeList_dups "security" (· == ·) st.doc m
    have e3 := mergePaths_warns f idx (st.doc.getObj "paths") st.ids (m.getObj "paths")
    rw [hA _ _ c3, hA _ _ c6, hw]
    simp only [stages, earlyStages, listStage, keyedStage, pathsStage, List.cons_append, List.nil_append,
      List.flatMap_cons, List.flatMap_nil, List.length_append, List.length_map, List.length_nil, mergeKeyed_warns]
    omega

/-- the five keyed sections alike: `paths` is the one whose entries are the path keys (`secP`) and whose
    values are kept up to a `g` that does not see the renaming of operation ids -/
theorem StepFacts.sect {α : Type} {f : Facts} {idx : Nat} {st : Mixin.St} {m p1 : J} {w1 : List Mixin.Warn}
    {st' : Mixin.St} (sf : StepFacts f idx st m p1 w1 st') (g : J → α) (s : String) (hs : s ∈ keyedSections)
    (hg : s = "paths" → ∀ ids pi, g (Mixin.renameOps f idx ids pi).1 = g pi) :
    (st'.doc.getObj s).map (fun kv => (kv.1, g kv.2)) =
      (fw (secP s) (st.doc.getObj s) (m.getObj s)).1.map fun kv => (kv.1, g kv.2) := by
  by_cases h : s = "paths"
  · subst h
    rw [sf.paths, mergePaths_eq, secP_paths]
    exact (foldl_pathsBody_fw f idx g (hg rfl) _ _ ⟨_, st.ids, []⟩ rfl).1
  · rw [sf.keyed s (by simpa [keyedSections, h] using hs), secP_ne h]

end Proofs.Mixin
