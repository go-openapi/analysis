import Verif.Proofs.Skeleton
import Verif.Proofs.RemoveUnused

/-!
  `Flatten.flatten` and `Flatten.flattenLocal` are one pipeline with two import phases (`pipeline`); what it does
  to the document is said once (`pipeline_doc`).  From it: C10, C06 and the first clause of C01
  (Properties/C01Skeleton.lean).  At the end, namespace `Proofs.FlattenImport`: the import loop taken alone.
-/

namespace Proofs.FlattenPipeline
open J Flatten OutcomeM Proofs.FlattenBase Proofs.FlattenPhases

def InSync (fc : Facts) (s : St) : Prop := s.idx = Analyzer.analyze fc s.doc

theorem reload_inSync (fc : Facts) (s : St) : InSync fc (reload fc s) := by unfold InSync reload; rfl

theorem syncNewRefs_inSync (fc : Facts) (s : St) (h : InSync fc s) : InSync fc (syncNewRefs s) := h

variable (fc : Facts) (x : Ext) (o : Opts)

theorem stripOAIGen_inSync (s : St) : Post (stripOAIGen fc x s) fun res => InSync fc res.1 := by
  unfold stripOAIGen stripInOrder
  exact .bind fun (s2, rep) _ => .pure (reload_inSync fc s2)

theorem stripLoop_inSync : ∀ (fuel : Nat) (s : St) (again : Bool), InSync fc s →
    Post (stripLoop fc x o fuel s again) (InSync fc)
  | 0, _, _, _ => fun _ h => nomatch h
  | fuel + 1, s, again, hs => by
    unfold stripLoop
    exact .ite (fun _ _ h => Outcome.ok.inj h ▸ hs) fun _ => .bind fun s1 _ => .bind fun s2 _ =>
      .bind fun (s3, again') h3 => stripLoop_inSync fuel s3 again' (stripOAIGen_inSync fc x s2 _ h3)

theorem stripPointersAndOAIGen_inSync (fuel : Nat) (s : St) :
    Post (stripPointersAndOAIGen fc x o fuel s) (InSync fc) := by
  unfold stripPointersAndOAIGen
  exact .bind fun s1 _ => .bind fun (s2, again) h2 =>
    stripLoop_inSync fc x o fuel s2 again (stripOAIGen_inSync fc x s1 _ h2)

theorem removeUnused_inSync (s : St) : Post (Flatten.removeUnused fc x s) (InSync fc) := by
  unfold Flatten.removeUnused
  exact .bind fun d _ => .pure (reload_inSync fc _)

/-- `Flatten.flatten` with the import phase as a parameter -/
def pipeline (imp : St → Outcome St) (fc : Facts) (x : Ext) (o : Opts) (fuel : Nat) (s : St) : Outcome St := do
  let s1 ← normalizeRef fc x o s
  let s2 := if o.removeUnused then removeUnusedShared fc s1 else s1
  let s3 ← imp s2
  let s4 ← (if !o.minimal && !o.expand then nameInlinedSchemas fc x o s3 else pure s3)
  let s5 ← stripPointersAndOAIGen fc x o fuel s4
  if o.removeUnused then Flatten.removeUnused fc x s5 else pure s5

theorem flatten_eq (fuel : Nat) (s : St) :
    flatten fc x o fuel s = pipeline (importReferences fc x o fuel) fc x o fuel s := rfl

theorem flattenLocal_eq (fuel : Nat) (s : St) :
    flattenLocal fc x o fuel s = pipeline (importReferencesLocal fc) fc x o fuel s := rfl

theorem importReferencesLocal_writes (s : St) :
    Post (importReferencesLocal fc s) fun s' => Writes AnyDefs s.doc s'.doc := by
  unfold importReferencesLocal
  refine .ite (fun _ s' h => ?_) fun _ _ h => nomatch h
  rw [← Outcome.ok.inj h, reload_doc]
  exact .refl _

theorem removeUnusedShared_doc (s : St) : (removeUnusedShared fc s).doc = RemoveUnused.removeShared s.doc := by
  unfold removeUnusedShared reload; rfl

variable {imp : St → Outcome St}

/-- C10 on the model, whatever the state the pipeline starts from -/
theorem pipeline_inSync (fuel : Nat) (s : St) : Post (pipeline imp fc x o fuel s) (InSync fc) := by
  unfold pipeline
  exact .bind fun s1 _ => .bind fun s3 _ => .bind fun s4 _ => .bind fun s5 h5 =>
    .ite (fun _ => removeUnused_inSync fc x s5) fun _ => .pure (stripPointersAndOAIGen_inSync fc x o fuel s4 s5 h5)

/-- `d1`: the document after `normalizeRef`; `d5`: the one handed to the removal loop -/
theorem pipeline_doc (himp : ∀ s, Post (imp s) fun s' => Writes AnyDefs s.doc s'.doc) (fuel : Nat) (s : St) :
    Post (pipeline imp fc x o fuel s) fun s' => ∃ d1 d5,
      Writes AnyDefs s.doc d1 ∧
      Writes AnyDefs (if o.removeUnused then RemoveUnused.removeShared d1 else d1) d5 ∧
      if o.removeUnused then
        RemoveUnused.removeUnused fc { refName := refName x } ((d5.getObj "definitions").length + 2) d5 = .ok s'.doc
      else s'.doc = d5 := by
  unfold pipeline Flatten.removeUnused
  refine .bind fun s1 h1 => .bind fun s3 h3 => .bind fun s4 h4 => .bind fun s5 h5 => ?_
  have w3 := himp _ s3 h3
  rw [apply_ite St.doc, removeUnusedShared_doc] at w3
  have w4 : Writes AnyDefs s3.doc s4.doc :=
    Post.ite (fun _ s4 h4 => (nameInlinedSchemas_writes fc x o s3 s4 h4).any) (fun _ => .pure (.refl _)) s4 h4
  have w5 := (w3.trans w4).trans (stripPointersAndOAIGen_writes fc x o fuel s4 s5 h5)
  refine .ite (fun hr => .bind fun d hd => .pure ⟨s1.doc, s5.doc, normalizeRef_writes fc x o s s1 h1, w5, ?_⟩)
    fun hr => .pure ⟨s1.doc, s5.doc, normalizeRef_writes fc x o s s1 h1, w5, ?_⟩
  · rw [if_pos hr, reload_doc]
    exact hd
  · rw [if_neg hr]

/-- C06 on the model -/
theorem pipeline_removeUnused (himp : ∀ s, Post (imp s) fun s' => Writes AnyDefs s.doc s'.doc)
    (fuel : Nat) (s s' : St) (h : pipeline imp fc x o fuel s = .ok s') (hr : o.removeUnused = true) :
    s'.doc.getObj "parameters" = [] ∧ s'.doc.getObj "responses" = [] ∧
    ∀ kv ∈ s'.doc.getObj "definitions",
      (RemoveUnused.usedNames fc { refName := refName x } s'.doc).contains kv.1 = true := by
  obtain ⟨d1, d5, _, w, hd⟩ := pipeline_doc fc x o himp fuel s s' h
  simp only [hr, if_true] at w hd
  -- the shared sections are gone after `removeUnusedShared` and no write brings them back
  have n5 : NoShared d5 := w.noShared
    ⟨Proofs.RemoveUnused.get?_removeShared_parameters d1, Proofs.RemoveUnused.get?_removeShared_responses d1⟩
  have hok := Proofs.RemoveUnused.removeUnused_ok fc _ _ d5 _ hd
  refine ⟨?_, ?_, fun kv hkv => ?_⟩
  · exact getObj_of_get?_none _ _ ((hok.2.2 "parameters" (by simp)).trans n5.1)
  · exact getObj_of_get?_none _ _ ((hok.2.2 "responses" (by simp)).trans n5.2)
  · rw [← hok.1] at hkv
    exact (List.mem_filter.1 hkv).2

end Proofs.FlattenPipeline

namespace Proofs.FlattenImport
open Flatten OutcomeM Proofs.FlattenPipeline

/-- `pipeline_inSync` does not pass through this: the phases after the import reload -/
theorem importReferences_inSync (fc : Facts) (x : Ext) (o : Opts) :
    ∀ (fuel : Nat) (s s' : St), importReferences fc x o fuel s = .ok s' → InSync fc s' := by
  intro fuel
  induction fuel with
  | zero => exact fun _ _ h => nomatch h
  | succ fuel ih =>
    intro s s' h
    unfold importReferences at h
    obtain ⟨⟨s1, complete⟩, _, h⟩ := bind_eq_ok.1 h
    cases complete with
    | true => exact Outcome.ok.inj h ▸ reload_inSync fc s1
    | false => exact ih _ s' h

end Proofs.FlattenImport
