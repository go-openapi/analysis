import Verif.Model.Fixer
import Verif.Spec.Fixer
import Verif.Proofs.JsonLemmas
import Verif.Proofs.ListLemmas

/-!
  The specification of C19 applies a function at every response position with one traversal,
  `mapResponses`, built from `mapObj` and `sel`.  Both compose (`J.mapObj_comp`, `J.sel_comp`), hence so
  does the traversal (`mapResponses_comp`), and the response objects after it are the images of those
  before (`allResponses_map`): post-condition, frame and idempotence reduce to facts about one response.
-/

namespace Proofs.Fixer
open J Spec.Fixer

theorem fixDesc_eq_describe : Fixer.fixDesc = describe := rfl

theorem isResponseKey_eq : Fixer.isResponseKey = isResponseKey := rfl

theorem atTop_responses (g : J → J) : atTop g "responses" = mapObj (fun _ => g) := by
  simp [atTop]

theorem atTop_comp (g h : J → J) (k : String) : atTop g k ∘ atTop h k = atTop (g ∘ h) k := by
  unfold atTop
  split
  · simp only [mapObj_comp, sel_comp]
  · split
    · rw [mapObj_comp]
    · rfl

theorem mapResponses_comp (g h : J → J) (d : J) :
    mapResponses g (mapResponses h d) = mapResponses (g ∘ h) d := by
  show (mapObj (atTop g) ∘ mapObj (atTop h)) d = _
  rw [mapObj_comp]
  simp only [atTop_comp]
  rfl

/-- the model makes two passes (shared responses, then paths) where `expected` makes one; it computes
    the expected document as soon as the visited methods are the seven -/
theorem fixDoc_eq_expected (ms : List String)
    (hms : ∀ k, ms.contains k = Doc.isMethodKey k) (d : J) :
    Fixer.fixDoc ms d = expected d := by
  show (mapObj _ ∘ mapObj _) d = mapObj (atTop describe) d
  rw [mapObj_comp]
  congr 1
  funext k v
  by_cases h1 : k = "paths"
  · subst h1
    simp only [Fixer.fixPaths, Fixer.fixPathItem, Fixer.fixOp, Fixer.fixResponses, fixDesc_eq_describe,
      isResponseKey_eq, hms, atTop]
    simp [sel]
  · by_cases h2 : k = "responses"
    · subst h2
      simp [Fixer.fixShared, fixDesc_eq_describe, atTop_responses, sel]
    · simp [h1, h2, atTop, sel]

theorem described_describe (r : J) (hr : r.isObj = true) : described (describe r) = true := by
  unfold describe
  split
  · assumption
  · simp [described, getStr_set_self r _ _ hr]

theorem describe_idem (r : J) : describe (describe r) = describe r := by
  by_cases hr : r.isObj = true
  · rw [describe, if_pos (described_describe r hr)]
  · have : describe r = r := by
      unfold describe
      split
      · rfl
      · exact set_of_not_isObj r hr _ _
    rw [this, this]

theorem hasRefKey_set_description (r : J) (v : J) :
    Doc.hasRefKey (r.set "description" v) = Doc.hasRefKey r := by
  unfold Doc.hasRefKey
  rw [get?_set_ne _ _ _ _ (by decide)]

theorem blank_describe (r : J) : blank (describe r) = blank r := by
  unfold describe
  split
  · rfl
  · rename_i hd
    have hd' : r.getStr "description" = "" ∧ Doc.hasRefKey r = false := by simpa [described] using hd
    by_cases hr : r.isObj = true
    · unfold blank
      simp [hasRefKey_set_description, hd'.1, hd'.2, getStr_set_self r _ _ hr, erase_set_self]
    · rw [set_of_not_isObj r hr]

theorem opResponses_map (g : J → J) (op : J) :
    opResponses (mapObj (sel (· = "responses") (mapObj (sel isResponseKey g))) op) = (opResponses op).map g := by
  unfold opResponses
  rw [filter_getObj_mapObj _ isResponseKey g "responses" op (sel_pos _ _ _ (by simp))]
  simp only [List.map_map]
  rfl

theorem pathItemOps_map (G : J → J) (pi : J) :
    pathItemOps (mapObj (sel Doc.isMethodKey G) pi) = (pathItemOps pi).map G := by
  unfold pathItemOps
  rw [List.map_filterMap]
  apply List.filterMap_congr'
  intro m hm
  rw [get?_mapObj, sel_pos _ _ _ (by simp [Doc.isMethodKey, hm])]

theorem allResponses_map (g : J → J) (d : J) :
    allResponses (mapResponses g d) = (allResponses d).map g := by
  unfold allResponses Doc.pathItems mapResponses
  rw [filter_getObj_mapObj (atTop g) Doc.isPathKey _ "paths" d (if_pos rfl),
    getObj_mapObj (atTop g) (fun _ => g) "responses" d (atTop_responses g)]
  simp only [List.map_append, List.map_map, List.flatMap_map, List.map_flatMap]
  congr 1
  apply List.flatMap_congr'
  intro kv _
  rw [pathItemOps_map, List.flatMap_map]
  apply List.flatMap_congr'
  intro op _
  exact opResponses_map g op

end Proofs.Fixer
