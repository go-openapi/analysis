import Verif.Model.Ops
import Verif.Spec.Ops
import Verif.Proofs.JsonLemmas
import Verif.Proofs.ListLemmas
import Verif.Proofs.StrLemmasAux

/-!
  Helper lemmas for C14 (operation lookups).  The method table of the model is a parameter `ms`
  (the extracted `f.analyzerMethods`); everything is proved from `ms.Perm refMethods`.
-/

namespace Proofs.Ops
open J

/-- the table `analyzeOperations` is expected to pass to `analyzeOperation` (the `FactsOK` structures spell it out) -/
def refMethods : List (String × String) := Doc.methods.map fun m => (Str.toUpperAscii m, m)

theorem refMethods_keys_nodup : (refMethods.map (·.1)).Nodup := by decide

theorem keys_nodup {ms : List (String × String)} (h : ms.Perm refMethods) : (ms.map (·.1)).Nodup :=
  ((h.map (·.1)).nodup_iff).mpr refMethods_keys_nodup

def opsWith (ms : List (String × String)) (items : List (String × J)) : List (String × String × J) :=
  items.flatMap fun kv => ms.filterMap fun mf => (kv.2.get? mf.2).map fun op => (mf.1, kv.1, op)

theorem operations_eq (f : Facts) (d : J) : Ops.operations f d = opsWith f.analyzerMethods (Doc.pathItems d) := rfl

theorem allOps_eq (d : J) : Spec.Ops.allOps d = opsWith refMethods (Doc.pathItems d) := rfl

theorem opsWith_perm {ms₁ ms₂ : List (String × String)} (h : ms₁.Perm ms₂) (items : List (String × J)) :
    (opsWith ms₁ items).Perm (opsWith ms₂ items) :=
  List.flatMap_perm_congr items fun _ _ => h.filterMap _

theorem operations_perm (f : Facts) (h : f.analyzerMethods.Perm refMethods) (d : J) :
    (Ops.operations f d).Perm (Spec.Ops.allOps d) :=
  opsWith_perm h _

theorem mem_opsWith {ms : List (String × String)} {items : List (String × J)} {o : String × String × J}
    (h : o ∈ opsWith ms items) : ∃ kv ∈ items, ∃ mf ∈ ms, kv.2.get? mf.2 = some o.2.2 ∧ o.1 = mf.1 ∧ o.2.1 = kv.1 := by
  simp only [opsWith, List.mem_flatMap, List.mem_filterMap, Option.map_eq_some_iff] at h
  obtain ⟨kv, hkv, mf, hmf, op, hop, rfl⟩ := h
  exact ⟨kv, hkv, mf, hmf, hop, rfl, rfl⟩

theorem upper_of_mem_allOps {d : J} {o : String × String × J} (h : o ∈ Spec.Ops.allOps d) :
    Str.toUpperAscii o.1 = o.1 := by
  rw [allOps_eq] at h
  obtain ⟨_, _, mf, hmf, _, e, _⟩ := mem_opsWith h
  obtain ⟨m, _, rfl⟩ := List.mem_map.1 hmf
  rw [e]
  exact Str.toUpperAscii_idem m

theorem operationForName_unique (f : Facts) (h : f.analyzerMethods.Perm refMethods) (d : J) (id : String)
    (hu : ((Spec.Ops.allOps d).filter fun o => Spec.Ops.idOf o = id).length = 1) :
    Ops.operationForName f d id = Spec.Ops.operationForName d id :=
  List.find?_perm_of_le_one (operations_perm f h d) (Nat.le_of_eq hu)

theorem opsWith_cons (ms : List (String × String)) (kv : String × J) (rest : List (String × J)) :
    opsWith ms (kv :: rest) = opsWith ms [kv] ++ opsWith ms rest := by
  simp [opsWith]

theorem find?_opsWith_absent (ms : List (String × String)) (items : List (String × J)) (M path : String)
    (h : M ∉ ms.map (·.1) ∨ path ∉ items.map (·.1)) :
    (opsWith ms items).find? (fun o => o.1 = M ∧ o.2.1 = path) = none := by
  rw [List.find?_eq_none]
  intro o ho
  obtain ⟨kv, hkv, mf, hmf, _, e1, e2⟩ := mem_opsWith ho
  have : ¬ (o.1 = M ∧ o.2.1 = path) := fun ⟨h1, h2⟩ =>
    h.elim (fun h => h (h1 ▸ e1 ▸ List.mem_map_of_mem hmf)) (fun h => h (h2 ▸ e2 ▸ List.mem_map_of_mem hkv))
  simp [this]

theorem find?_opsWith_single (ms : List (String × String)) (hn : (ms.map (·.1)).Nodup) (kv : String × J) (M : String) :
    (opsWith ms [kv]).find? (fun o => o.1 = M ∧ o.2.1 = kv.1) =
    (ms.find? fun mf => mf.1 = M).bind fun mf => (kv.2.get? mf.2).map fun op => (mf.1, kv.1, op) := by
  induction ms with
  | nil => rfl
  | cons mf rest ih =>
    simp only [List.map_cons, List.nodup_cons] at hn
    have hc : opsWith (mf :: rest) [kv] =
        ((kv.2.get? mf.2).map fun op => (mf.1, kv.1, op)).toList ++ opsWith rest [kv] := by
      simp only [opsWith, List.flatMap_cons, List.flatMap_nil, List.append_nil, List.filterMap_cons]
      cases kv.2.get? mf.2 <;> rfl
    rw [hc, List.find?_append, List.find?_cons]
    by_cases hM : mf.1 = M
    · rw [find?_opsWith_absent rest [kv] M kv.1 (.inl (hM ▸ hn.1)), Option.or_none]
      cases hg : kv.2.get? mf.2 <;> simp [hM, hg]
    · rw [ih hn.2]
      cases kv.2.get? mf.2 <;> simp [hM]

theorem lookup_absent (path : String) (items : List (String × J)) (hk : path ∉ items.map (·.1)) :
    lookup path items = none :=
  (lookup_eq_none_iff path items).2 hk

theorem find?_opsWith (ms : List (String × String)) (hn : (ms.map (·.1)).Nodup)
    (items : List (String × J)) (hi : (items.map (·.1)).Nodup) (M path : String) :
    ((opsWith ms items).find? (fun o => o.1 = M ∧ o.2.1 = path)).map (·.2.2) =
    (ms.find? fun mf => mf.1 = M).bind fun mf => (lookup path items).bind (·.get? mf.2) := by
  induction items with
  | nil => cases ms.find? fun mf => mf.1 = M <;> rfl
  | cons kv rest ih =>
    obtain ⟨k, v⟩ := kv
    simp only [List.map_cons, List.nodup_cons] at hi
    rw [opsWith_cons, List.find?_append, lookup_cons]
    by_cases hk : k = path
    · subst hk
      rw [find?_opsWith_absent ms rest M k (.inr hi.1), Option.or_none, find?_opsWith_single ms hn (k, v), if_pos rfl]
      cases ms.find? fun mf => mf.1 = M with
      | none => rfl
      | some mf => cases hg : v.get? mf.2 <;> simp [hg]
    · rw [find?_opsWith_absent ms [(k, v)] M path (.inr (by simpa using Ne.symm hk)), Option.none_or, ih hi.2,
        if_neg hk]

theorem theMethod_eq (method : String) :
    (refMethods.find? fun mf => mf.1 = Str.toUpperAscii method) =
      (Spec.Ops.theMethod method).map fun m => (Str.toUpperAscii m, m) := by
  simp only [refMethods, Spec.Ops.theMethod, List.find?_map, Function.comp_def]

theorem operationFor_exact (f : Facts) (h : f.analyzerMethods.Perm refMethods) (d : J)
    (hn : ((Doc.pathItems d).map (·.1)).Nodup) (method path : String) :
    Ops.operationFor f d method path = Spec.Ops.operationFor d method path := by
  unfold Ops.operationFor Spec.Ops.operationFor
  rw [operations_eq, find?_opsWith _ (keys_nodup h) _ hn,
    List.find?_perm_of_le_one h (List.length_filter_key_le_one (·.1) refMethods_keys_nodup _), theMethod_eq]
  cases Spec.Ops.theMethod method <;> rfl

end Proofs.Ops
