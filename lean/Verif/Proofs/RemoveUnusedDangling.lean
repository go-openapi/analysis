import Verif.Proofs.RemoveUnused
import Verif.Proofs.ListLemmas

/-!
  The removal phases only shrink what the analyzer sees: a document with fewer shared parameters, shared
  responses and definitions, the rest the same, has fewer index entries (`analyze_subset`), so it designates
  fewer definitions (`usedNames_mono`) and holds no `$ref` if it held none (`RefFree.mono`).  C06's third
  clause (no removal phase makes a `$ref` dangle, Properties/C06.lean) and C05 rest on this.
-/

namespace Proofs.RemoveUnusedDangling
open J _root_.RemoveUnused Analyzer Proofs.RemoveUnused

def NoDangling (f : Facts) (x : Ext) (d : J) : Prop :=
  ∀ n ∈ usedNames f x d, n ∈ (d.getObj "definitions").map (·.1)

theorem analyze_subset (f : Facts) {d d' : J}
    (h : ∀ k, k ≠ "parameters" → k ≠ "responses" → k ≠ "definitions" → d'.get? k = d.get? k)
    (hs : ∀ k, d'.getObj k ⊆ d.getObj k) : analyze f d' ⊆ analyze f d := by
  unfold analyze Doc.pathItems
  rw [getStrs_congr _ _ _ (h "consumes" (by simp) (by simp) (by simp)),
    getStrs_congr _ _ _ (h "produces" (by simp) (by simp) (by simp)),
    getArr_congr _ _ _ (h "security" (by simp) (by simp) (by simp)),
    getObj_congr _ _ _ (h "paths" (by simp) (by simp) (by simp))]
  -- `analyze`: the top-level fields and `paths` (equal on both sides by the `rw`), then one `flatMap` each over
  -- `parameters`, `responses`, `definitions`
  intro e he
  simp only [List.mem_append] at he ⊢
  rcases he with ((he | he) | he) | he
  · exact .inl (.inl (.inl he))
  · exact .inl (.inl (.inr (List.flatMap_subset_of_subset _ (hs _) he)))
  · exact .inl (.inr (List.flatMap_subset_of_subset _ (hs _) he))
  · exact .inr (List.flatMap_subset_of_subset _ (hs _) he)

theorem analyze_subset_of_fewer_defs (f : Facts) {d d' : J} (p : String × J → Bool)
    (h : ∀ k, k ≠ "definitions" → d'.get? k = d.get? k)
    (hd : d'.getObj "definitions" = (d.getObj "definitions").filter p) : analyze f d' ⊆ analyze f d := by
  refine analyze_subset f (fun k _ _ hk => h k hk) fun k => ?_
  by_cases hk : k = "definitions"
  · rw [hk, hd]; exact List.filter_sublist.subset
  · rw [getObj_congr _ _ _ (h k hk)]; exact List.Subset.refl _

theorem analyze_subset_removeShared (f : Facts) (d : J) : analyze f (removeShared d) ⊆ analyze f d := by
  refine analyze_subset f (fun k h1 h2 _ => get?_removeShared_ne d k h1 h2) fun k => ?_
  by_cases h1 : k = "parameters"
  · simp [h1, getObj_of_get?_none _ _ (get?_removeShared_parameters d)]
  · by_cases h2 : k = "responses"
    · simp [h2, getObj_of_get?_none _ _ (get?_removeShared_responses d)]
    · rw [getObj_congr _ _ _ (get?_removeShared_ne d k h1 h2)]; exact List.Subset.refl _

theorem usedNames_mono (f : Facts) (x : Ext) {d d' : J} (h : analyze f d' ⊆ analyze f d) :
    usedNames f x d' ⊆ usedNames f x d :=
  List.filterMap_subset _ (List.filterMap_subset _ h)

theorem usedNames_subset (f : Facts) (x : Ext) (d d' : J) (p : String × J → Bool)
    (h : ∀ k, k ≠ "definitions" → d'.get? k = d.get? k)
    (hd : d'.getObj "definitions" = (d.getObj "definitions").filter p) :
    ∀ n ∈ usedNames f x d', n ∈ usedNames f x d :=
  fun _ hn => usedNames_mono f x (analyze_subset_of_fewer_defs f p h hd) hn

/-- the analyzer sees no `$ref` of any kind -/
def RefFree (f : Facts) (d : J) : Prop := Index.refsWhere (fun _ => true) (analyze f d) = []

theorem RefFree.mono {f : Facts} {d d' : J} (h : analyze f d' ⊆ analyze f d) (hr : RefFree f d) : RefFree f d' :=
  List.subset_nil.1 (hr ▸ List.filterMap_subset _ h)

theorem refFree_of_fewer_defs (f : Facts) (d d' : J) (p : String × J → Bool)
    (h : ∀ k, k ≠ "definitions" → d'.get? k = d.get? k)
    (hd : d'.getObj "definitions" = (d.getObj "definitions").filter p) (hr : RefFree f d) : RefFree f d' :=
  hr.mono (analyze_subset_of_fewer_defs f p h hd)

theorem removeShared_refFree (f : Facts) (d : J) (hr : RefFree f d) : RefFree f (removeShared d) :=
  hr.mono (analyze_subset_removeShared f d)

theorem removeUnused_refFree_result (f : Facts) (x : Ext) (d : J) (hr : RefFree f d) :
    ∃ d', removeUnused f x ((d.getObj "definitions").length + 2) d = .ok d' ∧ RefFree f d' :=
  let ⟨d', hd'⟩ := removeUnused_terminates f x _ d (Nat.le_succ _)
  ⟨d', hd', (removeUnused_inv f x (fun d => refFree_of_fewer_defs f d _ _ (singlePass_get?_ne f x d)
    (singlePass_getObj f x d)) _ d d' hd' hr).1⟩

end Proofs.RemoveUnusedDangling
