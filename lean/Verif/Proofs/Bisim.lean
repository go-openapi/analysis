import Verif.Model.Cert
import Verif.Proofs.ListLemmas

/-!
  Bisimulation up to a relation given as a predicate (the certificate checker of C01 is the special
  case of a finite list): if every related pair of positions steps to locally agreeing nodes whose
  children are related again, related positions have the same unfolding at every depth.  The two
  bundles may use different hop bounds (the naming move needs one hop more on the rewritten side),
  hence `unfold` in the conclusions and not `MeaningEq`.
-/

namespace Proofs.Bisim
open J Spec.Meaning _root_.Cert

def Hop (b : Bundle) (p t : Pos) : Prop :=
  ∃ j, b.node p = some j ∧ Doc.refStr j ≠ "" ∧ b.target p.1 (Doc.refStr j) = some t

def Ends (b : Bundle) (p : Pos) : Prop := ∃ j, b.node p = some j ∧ Doc.refStr j = ""

theorem chase_succ_iff {b : Bundle} {h : Nat} {p x : Pos} :
    chase b (h + 1) p = some x ↔ (Ends b p ∧ x = p) ∨ ∃ t, Hop b p t ∧ chase b h t = some x := by
  rw [chase]
  cases hn : b.node p with
  | none => simp [Ends, Hop, hn]
  | some j =>
    by_cases hr : Doc.refStr j = ""
    · simp only [Ends, Hop, hn, hr, ne_eq, not_true_eq_false, if_false, Option.some.injEq, false_and, exists_false,
        or_false, exists_eq_left', true_and]
      exact eq_comm
    · cases ht : b.target p.1 (Doc.refStr j) <;> simp [Ends, Hop, hn, hr, ht]

theorem chase_end {b : Bundle} {p : Pos} (he : Ends b p) (h : Nat) : chase b (h + 1) p = some p :=
  chase_succ_iff.2 (Or.inl ⟨he, rfl⟩)

theorem chase_hop {b : Bundle} {p t : Pos} (hh : Hop b p t) (h : Nat) : chase b (h + 1) p = chase b h t := by
  obtain ⟨j, hn, hr, ht⟩ := hh
  rw [chase]
  simp [hn, hr, ht]

theorem Hop.unique {b : Bundle} {p t t' : Pos} (h : Hop b p t) (h' : Hop b p t') : t = t' := by
  obtain ⟨j, hn, _, ht⟩ := h
  obtain ⟨j', hn', _, ht'⟩ := h'
  rw [hn] at hn'
  cases hn'
  rw [ht] at ht'
  cases ht'
  rfl

theorem Hop.not_ends {b : Bundle} {p t : Pos} (h : Hop b p t) : ¬ Ends b p := by
  obtain ⟨j, hn, hr, _⟩ := h
  rintro ⟨j', hn', hr'⟩
  rw [hn] at hn'
  cases hn'
  exact hr hr'

theorem chase_mono {b : Bundle} : ∀ {h : Nat} {p e : Pos}, chase b h p = some e → chase b (h + 1) p = some e := by
  intro h
  induction h with
  | zero => intro p e hc; simp [chase] at hc
  | succ h ih =>
    intro p e hc
    rcases chase_succ_iff.1 hc with ⟨he, rfl⟩ | ⟨t, hh, hc⟩
    · exact chase_end he _
    · rw [chase_hop hh]
      exact ih hc

theorem chase_le {b : Bundle} {h k : Nat} {p e : Pos} (hc : chase b h p = some e) (hk : h ≤ k) : chase b k p = some e := by
  induction hk with
  | refl => exact hc
  | step _ ih => exact chase_mono ih

theorem ends_of_chase {b : Bundle} : ∀ {h : Nat} {p e : Pos}, chase b h p = some e → Ends b e := by
  intro h
  induction h with
  | zero => intro p e hc; simp [chase] at hc
  | succ h ih =>
    intro p e hc
    rcases chase_succ_iff.1 hc with ⟨he, rfl⟩ | ⟨t, _, hc⟩
    · exact he
    · exact ih hc

theorem visible_keys (kvs : List (String × J)) :
    (visible kvs).map (·.1) = (kvs.map (·.1)).filter fun k => k ≠ marker := by
  simp only [visible, List.filter_map]
  rfl

theorem mem_visible_iff (kvs : List (String × J)) (k : String) :
    k ∈ (visible kvs).map (·.1) ↔ k ∈ kvs.map (·.1) ∧ k ≠ marker := by
  rw [visible_keys, List.mem_filter, decide_eq_true_eq]

theorem visible_setKv_marker (v : J) (kvs : List (String × J)) : visible (setKv marker v kvs) = visible kvs := by
  unfold visible
  fun_induction setKv marker v kvs with
  | case1 => simp
  | case2 v' rest => simp
  | case3 k' v' rest hk ih => simpa [hk] using ih

/-- for an array `F` is asked of every numeral, also beyond the length (free in every use: `kids_canon`, `Kids.const`) -/
def Kids (F : String → Prop) (a : J) : Prop :=
  (∀ kvs, a = .obj kvs → ∀ key ∈ (visible kvs).map (·.1), F key) ∧ (∀ xs, a = .arr xs → ∀ i : Nat, F (toString i))

theorem Kids.mono {F G : String → Prop} {a : J} (h : Kids F a) (hfg : ∀ k, F k → G k) : Kids G a :=
  ⟨fun kvs e key hkey => hfg _ (h.1 kvs e key hkey), fun xs e i => hfg _ (h.2 xs e i)⟩

theorem Kids.const {F : String → Prop} {a : J} (h : ∀ k, F k) : Kids F a :=
  ⟨fun _ _ k _ => h k, fun _ _ _ => h _⟩

theorem Kids.obj {F : String → Prop} {kvs : List (String × J)} (h : ∀ key ∈ (visible kvs).map (·.1), F key) :
    Kids F (.obj kvs) :=
  ⟨fun _ e => by cases e; exact h, nofun⟩

theorem Kids.scalar {F : String → Prop} {a : J} (h : isScalar a = true) : Kids F a :=
  ⟨fun _ e => (by subst e; cases h), fun _ e => (by subst e; cases h)⟩

theorem unfold_scalar (b : Bundle) (hops n : Nat) (p p' : Pos) (v : J)
    (hc : chase b hops p = some p') (hn : b.node p' = some v) (hs : isScalar v = true) :
    unfold b hops (n + 1) p = .leaf v := by
  simp only [unfold, hc, hn]
  cases v <;> simp_all [isScalar]

theorem unfold_obj (b : Bundle) (hops n : Nat) (p p' : Pos) (kvs : List (String × J))
    (hc : chase b hops p = some p') (hn : b.node p' = some (.obj kvs)) :
    unfold b hops (n + 1) p
      = .obj (((visible kvs).map (·.1)).map fun k => (k, unfold b hops n (child p' k))) := by
  simp only [unfold, hc, hn, List.map_map, Function.comp_def]

theorem unfold_arr (b : Bundle) (hops n : Nat) (p p' : Pos) (xs : List J)
    (hc : chase b hops p = some p') (hn : b.node p' = some (.arr xs)) :
    unfold b hops (n + 1) p
      = .arr ((List.range xs.length).map fun i => unfold b hops n (child p' (toString i))) := by
  simp only [unfold, hc, hn]

def NodesOK (R : Pos → Pos → Prop) (p' q' : Pos) (a c : J) : Prop :=
  match a, c with
  | .obj k1, .obj k2 =>
    (visible k1).map (·.1) = (visible k2).map (·.1) ∧
    ∀ k ∈ (visible k1).map (·.1), R (child p' k) (child q' k)
  | .arr x1, .arr x2 =>
    x1.length = x2.length ∧ ∀ i ∈ List.range x1.length, R (child p' (toString i)) (child q' (toString i))
  | a, c => isScalar a = true ∧ isScalar c = true ∧ a = c

def StepOK (b1 b2 : Bundle) (h1 h2 : Nat) (R : Pos → Pos → Prop) (p q : Pos) : Prop :=
  match chase b1 h1 p, chase b2 h2 q with
  | none, none => True
  | some p', some q' =>
    (match b1.node p', b2.node q' with
     | some a, some c => NodesOK R p' q' a c
     | _, _ => False)
  | _, _ => False

theorem bisim_sound (b1 b2 : Bundle) (h1 h2 : Nat) (R : Pos → Pos → Prop)
    (h : ∀ p q, R p q → StepOK b1 b2 h1 h2 R p q) :
    ∀ n p q, R p q → unfold b1 h1 n p = unfold b2 h2 n q := by
  intro n
  induction n with
  | zero => intro p q _; simp only [unfold]
  | succ n ih =>
    intro p q hpq
    have h := h p q hpq
    unfold StepOK at h
    split at h
    · rename_i hc1 hc2
      simp only [unfold, hc1, hc2]
    · rename_i p' q' hc1 hc2
      split at h
      · rename_i a c hn1 hn2
        unfold NodesOK at h
        split at h
        · rename_i k1 k2
          rw [unfold_obj b1 h1 n p p' k1 hc1 hn1, unfold_obj b2 h2 n q q' k2 hc2 hn2, ← h.1]
          congr 1
          exact List.map_congr_left fun k hk => by rw [ih _ _ (h.2 k hk)]
        · rename_i x1 x2
          rw [unfold_arr b1 h1 n p p' x1 hc1 hn1, unfold_arr b2 h2 n q q' x2 hc2 hn2, ← h.1]
          congr 1
          exact List.map_congr_left fun i hi => ih _ _ (h.2 i hi)
        · rw [unfold_scalar b1 h1 n p p' _ hc1 hn1 h.1, unfold_scalar b2 h2 n q q' _ hc2 hn2 h.2.1, h.2.2]
      · exact h.elim
    · exact h.elim

/-- `bisim_sound` as the rewrites of Flatten use it: from hypotheses on `$ref` chains and on the nodes they end on -/
theorem bisim_of_sim {b1 b2 : Bundle} {h1 h2 : Nat} {R : Pos → Pos → Prop}
    (fwd : ∀ p q x, R p q → chase b1 h1 p = some x → ∃ y, chase b2 h2 q = some y ∧ R x y)
    (bwd : ∀ p q y, R p q → chase b2 h2 q = some y → ∃ x, chase b1 h1 p = some x)
    (ends : ∀ x y a c, R x y → b1.node x = some a → b2.node y = some c → Doc.refStr a = "" → Doc.refStr c = "" →
      NodesOK R x y a c) :
    ∀ n p q, R p q → unfold b1 h1 n p = unfold b2 h2 n q := by
  refine bisim_sound b1 b2 h1 h2 R fun p q hr => ?_
  unfold StepOK
  cases hc : chase b1 h1 p with
  | none =>
    cases hc2 : chase b2 h2 q with
    | none => trivial
    | some y =>
      obtain ⟨x, hx⟩ := bwd p q y hr hc2
      cases hc.symm.trans hx
  | some x =>
    obtain ⟨y, hy, hxy⟩ := fwd p q x hr hc
    obtain ⟨a, ha, hra⟩ := ends_of_chase hc
    obtain ⟨c, hc2, hrc⟩ := ends_of_chase hy
    rw [hy]
    simp only [ha, hc2]
    exact ends x y a c hxy ha hc2 hra hrc

end Proofs.Bisim
