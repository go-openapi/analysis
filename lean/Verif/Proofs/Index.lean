import Verif.Model.Index
import Verif.Proofs.StrLemmas

/-!
  Keys: the strings the analyzer builds with `path.Join` / `jsonpointer.Escape` are the RFC 6901 renderings of the
  token paths of the specification (`Str.join_ptr_toks`).  `aItems`, the walk behind `analyzeItems`, against `itemsAt`.
  `schE p` / `itE loc p`: what is logged for one schema / items position.
-/

namespace IndexProof
open J Analyzer Spec.Index Str

theorem good_snoc {toks : List String} {k : String} (ht : ∀ t ∈ toks, GoodTok t) (hk : GoodTok k) :
    ∀ t ∈ toks ++ [k], GoodTok t := by
  intro t ht'
  rcases List.mem_append.1 ht' with h | h
  · exact ht t h
  · exact List.mem_singleton.1 h ▸ hk

theorem join1 (toks : List String) (k : String) (ht : ∀ t ∈ toks, GoodTok t) (hne : toks ≠ [])
    (hk : GoodTok k) : Str.join [ptr toks, Str.esc k] = ptr (toks ++ [k]) :=
  join_ptr_toks (ks := [k]) (good_snoc ht hk) hne

theorem join1_lit (toks : List String) (k : String) (ht : ∀ t ∈ toks, GoodTok t) (hne : toks ≠ [])
    (hk : GoodTok k) (he : Str.esc k = k) : Str.join [ptr toks, k] = ptr (toks ++ [k]) := by
  have := join1 toks k ht hne hk
  rwa [he] at this

/-- `join_ptr_toks` for a literal root (`hr`: one of `Str.root_*`) -/
theorem key_root {root lit : String} (hr : root = ptr [lit]) {ks : List String} (hg : ∀ t ∈ lit :: ks, GoodTok t) :
    Str.join (root :: ks.map Str.esc) = ptr (lit :: ks) :=
  hr ▸ join_ptr_toks (toks := [lit]) hg (by simp)

def schE (p : Pos) : List Ent :=
  Ent.schema (ptr p.1) (lastTok p.1) (isTopLevel p.1) p.2 ::
    (refEnt "schema" (ptr p.1) p.2 ++ patEnum "schema" (ptr p.1) p.2)

def itE (loc : String) (p : Pos) : List Ent :=
  refEnt ("items:" ++ loc) (ptr p.1) p.2 ++ patEnum "items" (ptr p.1) p.2

theorem goodTok_items : GoodTok "items" := by simp [GoodTok]

/- A permutation, not an equality: `aItems` logs the nested items before the entries of the position itself, `itemsAt`
   lists the position first. -/
mutual
  theorem aItems_perm (loc : String) : ∀ (toks : List String) (j : J), toks ≠ [] →
      (∀ p ∈ itemsAt toks j, ∀ t ∈ p.1, GoodTok t) →
      (aItems (ptr toks) loc j).Perm ((itemsAt toks j).flatMap (itE loc))
    | toks, .obj kvs, hne, hg => by
      have ht : ∀ t ∈ toks, GoodTok t := hg (toks, .obj kvs) (by simp [itemsAt])
      have ih := aItemsFields_perm loc toks kvs hne ht (fun p hp => hg p (by simp [itemsAt, hp]))
      simp only [aItems, itemsAt, List.flatMap_cons, itE, List.append_assoc]
      exact (List.perm_append_comm).trans ((List.Perm.append_left _ ih).trans (by simp))
    | _, .null, _, _ | _, .bool _, _, _ | _, .num _, _, _ | _, .str _, _, _ | _, .arr _, _, _ => by
      simp [aItems, itemsAt]
  theorem aItemsFields_perm (loc : String) : ∀ (toks : List String) (kvs : List (String × J)), toks ≠ [] →
      (∀ t ∈ toks, GoodTok t) → (∀ p ∈ itemsKids toks kvs, ∀ t ∈ p.1, GoodTok t) →
      (aItemsFields (ptr toks) loc kvs).Perm ((itemsKids toks kvs).flatMap (itE loc))
    | _, [], _, _, _ => by simp [aItemsFields, itemsKids]
    | toks, (k, v) :: rest, hne, ht, hg => by
      simp only [aItemsFields, itemsKids, List.flatMap_append]
      apply List.Perm.append
      · split
        · rw [join1_lit toks "items" ht hne goodTok_items esc_items]
          refine aItems_perm loc (toks ++ ["items"]) v (by simp) (fun p hp => hg p ?_)
          simp [itemsKids, *]
        · simp
      · exact aItemsFields_perm loc toks rest hne ht (fun p hp => hg p (by simp [itemsKids, hp]))
end

end IndexProof
