import Verif.Model.Replace
import Verif.Proofs.JsonLemmas
import Verif.Proofs.StrLemmas

/-!
  Reading and writing along a token path, one level at a time: a write along `t :: ts` resolves `t`
  (`Spec.Pointer.step`), writes along `ts` below the child, and puts the result back under `t` with `setChild`
  (`Replace.setAt_cons`; `Proofs.SetAt.setAt_cons_iff` for induction on the path).  A write under `t` is invisible
  under `u` when the tokens are apart (`TokApart`).  Namespaces: `PointerProof` for facts about `Spec.Pointer` alone,
  `Proofs.MoveBase` for `CanonTok`, `Replace` for `setChild`, `TokApart`, `Proofs.SetAt` for the inductions on the path.
  Elsewhere: the two equations of `Spec.Pointer.step` (`Proofs.UpdateComm.step_obj`, `step_arr`), the converse of
  `get_of_setAt` (`ReplaceKeys.setAt_of_get`, Replace.lean).
-/

namespace PointerProof
open J

theorem step_of_mem {kvs : List (String × J)} (hn : (kvs.map (·.1)).Nodup) {kv : String × J} (h : kv ∈ kvs) :
    Spec.Pointer.step (.obj kvs) kv.1 = some kv.2 := lookup_of_mem hn h

theorem step_of_getElem? {xs : List J} {n : Nat} {x : J} (h : xs[n]? = some x) :
    Spec.Pointer.step (.arr xs) (toString n) = some x := by
  simp only [Spec.Pointer.step, natOfDigits_toString, Option.bind_some, h]

theorem step_of_get? {j : J} {k : String} {v : J} (h : j.get? k = some v) : Spec.Pointer.step j k = some v := by
  cases j <;> first | exact h | cases h

theorem get_append (d : J) (a b : List String) :
    Spec.Pointer.get d (a ++ b) = (Spec.Pointer.get d a).bind fun c => Spec.Pointer.get c b := by
  induction a generalizing d with
  | nil => simp [Spec.Pointer.get]
  | cons t ts ih =>
    simp only [List.cons_append, Spec.Pointer.get]
    cases Spec.Pointer.step d t with
    | none => simp
    | some c => simpa using ih c

theorem get_snoc {d : J} {toks : List String} {j : J} (k : String) (h : Spec.Pointer.get d toks = some j) :
    Spec.Pointer.get d (toks ++ [k]) = Spec.Pointer.step j k := by
  rw [get_append, h]
  simp only [Option.bind_some, Spec.Pointer.get]
  cases Spec.Pointer.step j k <;> simp

end PointerProof

namespace Proofs.MoveBase

/-- a token that, when it reads as a number, is the canonical decimal numeral ("7", not "007") -/
def canonTokB (t : String) : Bool :=
  match Spec.Pointer.natOfDigits t.toList with
  | some i => t == toString i
  | none => true

def CanonTok (t : String) : Prop := canonTokB t = true

theorem CanonTok.eq {t : String} (h : CanonTok t) (i : Nat) (hi : Spec.Pointer.natOfDigits t.toList = some i) :
    t = toString i := by
  unfold CanonTok canonTokB at h
  rw [hi] at h
  simpa using h

theorem canonTok_toString (i : Nat) : CanonTok (toString i) := by
  unfold CanonTok canonTokB
  rw [PointerProof.natOfDigits_toString]
  simp

end Proofs.MoveBase

namespace Replace
open J

/-- put `c` in the place that `Spec.Pointer.step j t` reads (proof-side, not part of the model) -/
def setChild (j : J) (t : String) (c : J) : J :=
  match j with
  | .obj kvs => .obj (setKv t c kvs)
  | .arr xs => (match Spec.Pointer.natOfDigits t.toList with
     | some i => .arr (xs.set i c)
     | none => j)
  | _ => j

theorem setChild_arr (xs : List J) {t : String} {i : Nat} (hn : Spec.Pointer.natOfDigits t.toList = some i) :
    setChild (.arr xs) t = fun c => .arr (xs.set i c) := by
  funext c; simp only [setChild, hn]

theorem step_eq_get? {t : String} (h : Spec.Pointer.natOfDigits t.toList = none) (j : J) :
    Spec.Pointer.step j t = j.get? t := by
  cases j with
  | arr xs => simp only [Spec.Pointer.step, h]; rfl
  | _ => rfl

theorem set_eq_setChild {t : String} (h : Spec.Pointer.natOfDigits t.toList = none) (j v : J) :
    j.set t v = setChild j t v := by
  cases j with
  | arr xs => simp only [setChild, h]; rfl
  | _ => rfl

/-- tokens that select different members in every node (`"7"` and `"07"` select the same element of an array) -/
def TokApart (t u : String) : Prop :=
  t ≠ u ∧ ∀ i, Spec.Pointer.natOfDigits t.toList = some i → Spec.Pointer.natOfDigits u.toList ≠ some i

theorem TokApart.symm {t u : String} (h : TokApart t u) : TokApart u t :=
  ⟨h.1.symm, fun i hu ht => h.2 i ht hu⟩

theorem TokApart.of_canon {t u : String} (ht : Proofs.MoveBase.CanonTok t) (hu : Proofs.MoveBase.CanonTok u)
    (hne : t ≠ u) : TokApart t u :=
  ⟨hne, fun i hi hui => hne ((ht.eq i hi).trans (hu.eq i hui).symm)⟩

theorem TokApart.of_not_numeral {t u : String} (h : Spec.Pointer.natOfDigits t.toList = none) (hu : t ≠ u) : TokApart t u :=
  ⟨hu, fun _ ht => by rw [h] at ht; cases ht⟩

theorem step_setChild_self {j : J} {t : String} {c : J} (h : Spec.Pointer.step j t = some c) (c' : J) :
    Spec.Pointer.step (setChild j t c') t = some c' := by
  cases j with
  | obj kvs => exact lookup_setKv_self t c' kvs
  | arr xs =>
    simp only [Spec.Pointer.step] at h
    cases hn : Spec.Pointer.natOfDigits t.toList with
    | none => simp [hn] at h
    | some i =>
      simp only [hn, Option.bind_some] at h
      simp only [setChild, hn, Spec.Pointer.step, Option.bind_some]
      exact List.getElem?_set_self (List.getElem?_eq_some_iff.1 h).1
  | _ => cases h

theorem step_setChild_apart {t u : String} (h : TokApart t u) (j c' : J) :
    Spec.Pointer.step (setChild j t c') u = Spec.Pointer.step j u := by
  cases j with
  | obj kvs => exact lookup_setKv_ne t u c' kvs h.1.symm
  | arr xs =>
    cases hn : Spec.Pointer.natOfDigits t.toList with
    | none => simp only [setChild, hn]
    | some i =>
      simp only [setChild, hn, Spec.Pointer.step]
      cases hu : Spec.Pointer.natOfDigits u.toList with
      | none => rfl
      | some i' => exact List.getElem?_set_ne fun (e : i = i') => h.2 i hn (e ▸ hu)
  | _ => rfl

theorem setChild_setChild (j : J) (t : String) (x y : J) : setChild (setChild j t x) t y = setChild j t y := by
  cases j with
  | obj kvs => simp only [setChild, setKv_setKv]
  | arr xs => cases hn : Spec.Pointer.natOfDigits t.toList <;> simp [setChild, hn]
  | _ => rfl

theorem setChild_comm {t u : String} (h : TokApart t u) {j c : J} (hu : Spec.Pointer.step j u = some c) (x y : J) :
    setChild (setChild j t x) u y = setChild (setChild j u y) t x := by
  cases j with
  | obj kvs => simp only [setChild]; rw [setKv_comm t u x y c kvs h.1 hu]
  | arr xs =>
    cases hn : Spec.Pointer.natOfDigits t.toList <;> cases hnu : Spec.Pointer.natOfDigits u.toList <;>
      simp only [setChild, hn, hnu]
    rename_i i i'
    rw [List.set_comm _ _ fun (e : i = i') => h.2 i hn (e ▸ hnu)]
  | _ => rfl

theorem setAt_cons (j : J) (t : String) (ts : List String) (v : J) :
    setAt j (t :: ts) v = (Spec.Pointer.step j t).bind fun c => (setAt c ts v).map (setChild j t) := by
  cases j with
  | obj kvs => simp only [setAt, Spec.Pointer.step]; cases lookup t kvs <;> rfl
  | arr xs =>
    cases hn : Spec.Pointer.natOfDigits t.toList with
    | none => simp only [setAt, Spec.Pointer.step, hn]; rfl
    | some i => simp only [setAt, Spec.Pointer.step, hn, setChild_arr xs hn, Option.bind_some]; cases xs[i]? <;> rfl
  | _ => rfl

end Replace

namespace Proofs.SetAt
open J Replace

theorem setAt_cons_iff {d d' v : J} {t : String} {ts : List String} :
    setAt d (t :: ts) v = some d' ↔
      ∃ c c', Spec.Pointer.step d t = some c ∧ setAt c ts v = some c' ∧ setChild d t c' = d' := by
  simp only [setAt_cons, Option.bind_eq_some_iff, Option.map_eq_some_iff]
  exact ⟨fun ⟨c, hs, c', h⟩ => ⟨c, c', hs, h⟩, fun ⟨c, c', hs, h⟩ => ⟨c, hs, c', h⟩⟩

theorem step_cases {d c : J} {t : String} (h : Spec.Pointer.step d t = some c) :
    (∃ kvs, d = .obj kvs ∧ lookup t kvs = some c) ∨
      ∃ xs i, d = .arr xs ∧ Spec.Pointer.natOfDigits t.toList = some i ∧ xs[i]? = some c := by
  cases d with
  | obj kvs => exact .inl ⟨kvs, rfl, h⟩
  | arr xs =>
    obtain ⟨i, hn, hi⟩ := Option.bind_eq_some_iff.1 h
    exact .inr ⟨xs, i, rfl, hn, hi⟩
  | _ => cases h

/-- a node with a member is no string, before or after a write to that member: what `MoveBase.refStr_setChild` asks -/
theorem not_str_of_step {d c : J} {t : String} (h : Spec.Pointer.step d t = some c) (c' : J) :
    (∀ s, d ≠ .str s) ∧ ∀ s, setChild d t c' ≠ .str s := by
  rcases step_cases h with ⟨kvs, rfl, _⟩ | ⟨xs, i, rfl, hn, _⟩
  · exact ⟨fun _ => nofun, fun _ => nofun⟩
  · rw [setChild_arr xs hn]
    exact ⟨fun _ => nofun, fun _ => nofun⟩

theorem get_setAt_self {d d' v : J} {toks : List String} (h : setAt d toks v = some d') :
    Spec.Pointer.get d' toks = some v := by
  induction toks generalizing d d' with
  | nil =>
    cases h
    rfl
  | cons t ts ih =>
    obtain ⟨c, c', hs, hc, rfl⟩ := setAt_cons_iff.1 h
    simp [Spec.Pointer.get, step_setChild_self hs, ih hc]

theorem get_of_setAt {d d' v : J} {toks : List String} (h : setAt d toks v = some d') :
    ∃ old, Spec.Pointer.get d toks = some old := by
  induction toks generalizing d d' with
  | nil => exact ⟨d, rfl⟩
  | cons t ts ih =>
    obtain ⟨c, c', hs, hc, _⟩ := setAt_cons_iff.1 h
    simpa [Spec.Pointer.get, hs] using ih hc

theorem get_set_ne (node v : J) {k t : String} (rest : List String) (ht : t ≠ k) :
    Spec.Pointer.get (node.set k v) (t :: rest) = Spec.Pointer.get node (t :: rest) := by
  cases node with
  | obj kvs =>
    simp only [J.set, Spec.Pointer.get, Spec.Pointer.step]
    rw [J.lookup_setKv_ne _ _ _ _ ht]
  | _ => rfl

theorem setAt_get?_ne (d : J) (t : String) (ts : List String) (v d' : J)
    (h : setAt d (t :: ts) v = some d') (k : String) (hk : k ≠ t) : d'.get? k = d.get? k := by
  obtain ⟨c, c', hs, _, rfl⟩ := setAt_cons_iff.1 h
  rcases step_cases hs with ⟨kvs, rfl, _⟩ | ⟨xs, i, rfl, hn, _⟩
  · exact lookup_setKv_ne _ _ _ _ hk
  · rw [setChild_arr xs hn]; rfl

theorem setAt_obj_keys {m : List (String × J)} {t : String} {ts : List String} {v d' : J}
    (h : setAt (.obj m) (t :: ts) v = some d') : ∃ m', d' = .obj m' ∧ m'.map (·.1) = m.map (·.1) := by
  obtain ⟨c, c', hs, _, rfl⟩ := setAt_cons_iff.1 h
  exact ⟨_, rfl, map_setKv_of_lookup (·.1) t c' c m hs rfl⟩

theorem setAt_arr_isArr {xs : List J} {t : String} {ts : List String} {v d' : J}
    (h : setAt (.arr xs) (t :: ts) v = some d') : ∃ ys, d' = .arr ys := by
  obtain ⟨c, c', hs, _, rfl⟩ := setAt_cons_iff.1 h
  obtain ⟨i, hn, _⟩ := Option.bind_eq_some_iff.1 hs
  exact ⟨_, congrFun (setChild_arr xs hn) c'⟩

end Proofs.SetAt
