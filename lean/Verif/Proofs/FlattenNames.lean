import Verif.Proofs.FlattenBase
import Verif.Properties.C03

/-!
  The definition names of a document, for C03 at the level of the phases that create definitions: names are
  only appended, each fresh up to letter case (`FreshExt`).  `uniqify_fresh` is read off `C03.uniqify_fresh`:
  hence the import of a property file.
-/

namespace Proofs.FlattenNames
open J Replace Flatten Proofs.FlattenBase Proofs.SetAt

/-- `Flatten.defNames` under a local name; the two unfold to each other, and `Saves`, `nameWith_writes` and
    Properties/C03Phases.lean state everything with the model's -/
def defNames (d : J) : List String := Flatten.defNames d

inductive FreshExt (fold : String → String) : List String → List String → Prop
  | refl (l : List String) : FreshExt fold l l
  | snoc {l l' : List String} (n : String) : FreshExt fold l l' → (∀ k ∈ l', fold k ≠ fold n) →
      FreshExt fold l (l' ++ [n])

theorem FreshExt.prefix {fold : String → String} {a b : List String} (h : FreshExt fold a b) : a <+: b := by
  induction h with
  | refl => exact List.prefix_refl _
  | snoc n _ _ ih => exact ih.trans (List.prefix_append _ _)

theorem FreshExt.added_fresh {fold : String → String} {a b : List String} (h : FreshExt fold a b) :
    ∀ n ∈ b.drop a.length, ∀ k ∈ a, fold k ≠ fold n := by
  induction h with
  | refl => intro n hn; simp at hn
  | @snoc l' n0 hext hf ih =>
    intro n hn k hk
    have hp := hext.prefix
    rw [List.drop_append_of_le_length hp.length_le] at hn
    rcases List.mem_append.1 hn with h1 | h1
    · exact ih n h1 k hk
    · cases List.mem_singleton.1 h1
      exact hf k (hp.subset hk)

theorem setAt_defNames (d : J) (toks : List String) (n : J) (kind : Kind) (v d' : J)
    (hw : walk .swagger d toks = some (n, kind)) (hk : isSchemaKind kind = true)
    (h : setAt d toks v = some d') : defNames d' = defNames d := by
  cases toks with
  | nil => cases hw; cases hk
  | cons t ts =>
    by_cases ht : t = "definitions"
    · subst ht
      obtain ⟨c, c', hs, hc, rfl⟩ := setAt_cons_iff.1 h
      rcases step_cases hs with ⟨kvs, rfl, hl⟩ | ⟨xs, i, rfl, hn, _⟩
      · cases ts with
        | nil =>
          -- the walk stops on the definitions map itself, which is not a schema position
          simp only [walk, hs, childKind_swagger, if_true, Option.some.injEq, Prod.mk.injEq] at hw
          rw [← hw.2] at hk; cases hk
        | cons t2 ts2 =>
          simp only [setChild, defNames, Flatten.defNames, getObj, get?, lookup_setKv_self, hl]
          cases c with
          | obj m => obtain ⟨m', rfl, hm⟩ := setAt_obj_keys hc; exact hm
          | arr ys => obtain ⟨ys', rfl⟩ := setAt_arr_isArr hc; rfl
          | _ => cases hc
      · rw [setChild_arr xs hn]; rfl
    · simp only [defNames, Flatten.defNames, getObj, setAt_get?_ne d t ts v d' h "definitions" (Ne.symm ht)]

theorem _root_.Proofs.FlattenBase.Prim.defNames {d d' : J} (h : Prim d d') : defNames d' = defNames d :=
  let ⟨_, n, _, _, hw, hk, hs⟩ := h.setAt
  setAt_defNames d _ n _ _ _ hw hk hs

/-- second case: the document is not an object and `J.set` does nothing -/
theorem save_defNames (d : J) (name : String) (sch : J) (hn : name ∉ defNames d) :
    defNames (save d name sch) = defNames d ++ [name] ∨ defNames (save d name sch) = defNames d := by
  cases d with
  | obj kvs =>
    left
    unfold defNames Flatten.defNames save
    simp only [J.set, getObj, get?, lookup_setKv_self]
    exact map_fst_setKv_of_not_mem name sch _ hn
  | _ => right; rfl

/-- the fold function the model hands to `uniqifyName` -/
def foldOf (x : Ext) : String → String := fun s => (x.fold s).getD ""

theorem uniqify_fresh (fc : Facts) (hf : C03.FactsOK fc) (x : Ext) (defs : List String) (name : String)
    (r : String × Bool) (h : uniqify fc x defs name = .ok r) : ∀ k ∈ defs, foldOf x k ≠ foldOf x r.1 := by
  unfold uniqify at h
  simp only at h
  split at h
  · cases h
  · have hk := C03.uniqify_fresh fc hf { fold := foldOf x } defs name _ r h
    rw [Names.knownFold, List.any_eq_false] at hk
    exact fun k hkm he => hk k hkm (beq_iff_eq.2 he)

end Proofs.FlattenNames
