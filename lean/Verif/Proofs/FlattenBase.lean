import Verif.Model.Flatten
import Verif.Proofs.Replace

/-!
  The three replace primitives as one notion (`Prim`): each is a write at the end of a walk that reaches a
  schema (`Prim.setAt`).  Also `NoShared` (`Flatten.nfShared` as a proposition) and two facts about model helpers.
-/

namespace Proofs.FlattenBase
open Replace

theorem ask_eq_ok {fn arg v : String} {f : String → Option String} : Flatten.ask fn f arg = .ok v ↔ f arg = some v := by
  unfold Flatten.ask
  cases f arg <;> simp [Flatten.need]

theorem getNR_setNR_self (k : String) (v : Flatten.NewRef) (m : List (String × Flatten.NewRef)) :
    Flatten.getNR k (Flatten.setNR k v m) = some v := by
  fun_induction Flatten.setNR k v m with
  | case1 => simp [Flatten.getNR]
  | case2 v' rest => simp [Flatten.getNR]
  | case3 k' v' rest hk ih => simp [Flatten.getNR, hk, ih]

def NoShared (d : J) : Prop := d.get? "parameters" = none ∧ d.get? "responses" = none

theorem noShared_iff {d : J} : NoShared d ↔ Flatten.nfShared d = true := by
  simp only [NoShared, Flatten.nfShared, Bool.and_eq_true, Option.isNone_iff_eq_none]

inductive Prim (d d' : J) : Prop
  | updateRef {key ref : String} : updateRef d key ref = .ok d' → Prim d d'
  | rewrite {key ref : String} : rewriteSchemaToRef d key ref = .ok d' → Prim d d'
  | withSchema {key : String} {sch : J} : updateRefWithSchema d key sch = .ok d' → Prim d d'

theorem Prim.setAt {d d' : J} (h : Prim d d') :
    ∃ toks n k v, walk .swagger d toks = some (n, k) ∧ isSchemaKind k = true ∧ setAt d toks v = some d' := by
  cases h with
  | updateRef h => obtain ⟨n, k, hw, hk, hs⟩ := updateRef_ok.1 h; exact ⟨_, n, k, _, hw, hk, hs⟩
  | rewrite h => obtain ⟨n, k, hw, hk, _, hs⟩ := rewriteSchemaToRef_ok.1 h; exact ⟨_, n, k, _, hw, hk, hs⟩
  | withSchema h => obtain ⟨n, k, hw, hk, hs⟩ := updateRefWithSchema_ok.1 h; exact ⟨_, n, k, _, hw, hk, hs⟩

end Proofs.FlattenBase
