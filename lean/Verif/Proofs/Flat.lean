import Verif.Spec.Flat
import Verif.Proofs.Pointer

/-!
  Used by Properties/C02.lean, which holds the validator theorems of C02, C05 and C06: the generic `$ref` walk
  `Spec.Flat.refNodes` against JSON-pointer resolution `Spec.Pointer.get`.
-/

namespace Proofs.Flat
open J Spec.Flat PointerProof C12

/-- every token of the path that is consumed by an array is the canonical decimal numeral of the
    index it denotes (`"7"`, not `"007"`) -/
def canonIdx : J → List String → Bool
  | _, [] => true
  | d, t :: ts =>
    (match d with
     | .arr _ =>
       (match Spec.Pointer.natOfDigits t.toList with
        | some i => t == toString i
        | none => true)
     | _ => true) &&
    (match Spec.Pointer.step d t with
     | some c => canonIdx c ts
     | none => true)

theorem canonIdx_step {d : J} {t : String} {ts : List String} {c : J} (h : canonIdx d (t :: ts) = true)
    (hs : Spec.Pointer.step d t = some c) : canonIdx c ts = true := by
  have := (Bool.and_eq_true_iff.1 h).2
  rwa [hs] at this

theorem canonIdx_arr {xs : List J} {t : String} {ts : List String} {i : Nat} (h : canonIdx (.arr xs) (t :: ts) = true)
    (hn : Spec.Pointer.natOfDigits t.toList = some i) : t = toString i :=
  -- the test `canonIdx` makes of a token at an array is `canonTokB` (SetAt.lean)
  Proofs.MoveBase.CanonTok.eq (Bool.and_eq_true_iff.1 h).1 i hn

theorem refNodesKvs_flatMap (toks : List String) (kvs : List (String × J)) :
    refNodesKvs toks kvs = kvs.flatMap fun kv => refNodes (toks ++ [kv.1]) kv.2 := by
  induction kvs with
  | nil => rfl
  | cons kv rest ih => exact congrArg (refNodes (toks ++ [kv.1]) kv.2 ++ ·) ih

theorem refNodesArr_flatMap (toks : List String) (i : Nat) (xs : List J) :
    refNodesArr toks i xs = (xs.zipIdx i).flatMap fun xn => refNodes (toks ++ [toString xn.2]) xn.1 := by
  induction xs generalizing i with
  | nil => rfl
  | cons x rest ih => exact congrArg (refNodes (toks ++ [toString i]) x ++ ·) (ih (i + 1))

theorem refNodes_arr (toks : List String) (xs : List J) :
    refNodes toks (.arr xs) =
      (xs.zipIdx 0).flatMap fun xn => refNodes (toks ++ [toString xn.2]) xn.1 := by
  rw [← refNodesArr_flatMap]; rfl

theorem mem_refNodes_obj {toks : List String} {kvs : List (String × J)} {tr : List String × String} :
    tr ∈ refNodes toks (.obj kvs) ↔
      (tr.1 = toks ∧ (J.obj kvs).get? "$ref" = some (.str tr.2) ∧ tr.2 ≠ "") ∨
      ∃ kv ∈ kvs, tr ∈ refNodes (toks ++ [kv.1]) kv.2 := by
  obtain ⟨t, r⟩ := tr
  rw [refNodes, refNodesKvs_flatMap, List.mem_append, List.mem_flatMap]
  refine or_congr ?_ Iff.rfl
  show _ ↔ _ ∧ lookup "$ref" kvs = _ ∧ _
  split
  · next r' h =>
    rw [h]
    by_cases hr : r' = ""
    · simp [hr]
    · simp only [ne_eq, hr, not_false_eq_true, if_true, List.mem_singleton, Prod.mk.injEq, Option.some.injEq,
        J.str.injEq, and_congr_right_iff]
      exact fun _ => ⟨fun e => ⟨e.symm, e ▸ hr⟩, fun e => e.1.symm⟩
  · next h => simpa using fun _ e => absurd e (h _)

/-- `pre`: where `d` sits in the document the listing started from (`C02.allRefs_complete`: `[]`) -/
theorem refNodes_complete (toks : List String) : ∀ (d : J) (pre : List String) (j : J) (r : String),
    canonIdx d toks = true → Spec.Pointer.get d toks = some j →
    j.get? "$ref" = some (.str r) → r ≠ "" → (pre ++ toks, r) ∈ refNodes pre d := by
  induction toks with
  | nil =>
    intro d pre j r _ hg hr hne
    obtain rfl : d = j := Option.some.inj hg
    cases d with
    | obj kvs =>
      exact mem_refNodes_obj.2 (.inl ⟨List.append_nil pre, hr, hne⟩)
    | _ => cases hr
  | cons t ts ih =>
    intro d pre j r hc hg hr hne
    obtain ⟨c, hs, hg⟩ := Option.bind_eq_some_iff.1 hg
    have hrec := ih c (pre ++ [t]) j r (canonIdx_step hc hs) hg hr hne
    rw [List.append_assoc, List.singleton_append] at hrec
    cases d with
    | obj kvs =>
      exact mem_refNodes_obj.2 (.inr ⟨(t, c), lookup_mem hs, hrec⟩)
    | arr xs =>
      obtain ⟨i, hn, hi⟩ := Option.bind_eq_some_iff.1 hs
      rw [refNodes_arr]
      refine List.mem_flatMap.2 ⟨(c, i), List.mem_zipIdx_iff_getElem?.2 (by simpa using hi), ?_⟩
      rw [← canonIdx_arr hc hn]
      exact hrec
    | _ => cases hs

/-- converse of `refNodes_complete`; `NodupKeys`: then `lookup` finds the very member the walk listed (`step_of_mem`) -/
theorem refNodes_sound (d : J) {j : J} (hj : NodupKeys j) : ∀ pre, Spec.Pointer.get d pre = some j →
    ∀ tr ∈ refNodes pre j, ∃ j', Spec.Pointer.get d tr.1 = some j' ∧
      j'.get? "$ref" = some (.str tr.2) ∧ tr.2 ≠ "" := by
  induction hj with
  | obj kvs hn _ ih =>
    intro pre hg tr htr
    rcases mem_refNodes_obj.1 htr with ⟨h1, h2⟩ | ⟨kv, hkv, htr⟩
    · exact ⟨_, h1 ▸ hg, h2⟩
    · exact ih kv hkv _ ((get_snoc _ hg).trans (step_of_mem hn hkv)) tr htr
  | arr xs _ ih =>
    intro pre hg tr htr
    rw [refNodes_arr] at htr
    obtain ⟨xn, hxn, htr⟩ := List.mem_flatMap.1 htr
    have hget : xs[xn.2]? = some xn.1 := by simpa using List.mem_zipIdx_iff_getElem?.1 hxn
    exact ih _ (List.mem_of_getElem? hget) _ ((get_snoc _ hg).trans (step_of_getElem? hget)) tr htr
  | _ => intro pre _ tr htr; cases htr

theorem mem_canonRefs {canon : String → String} {d : J} {s : String}
    (h : (canonRefs canon d).contains s = true) : ∃ kv ∈ d.getObj "definitions", s = canon kv.1 := by
  rw [List.contains_iff_mem] at h
  obtain ⟨kv, hkv, e⟩ := List.mem_map.1 h
  exact ⟨kv, hkv, e.symm⟩

end Proofs.Flat
