import Verif.Model.Flatten
import Verif.Proofs.Outcome
import Verif.Proofs.ListLemmas

/-!
  `namesFromKey` does not depend on the order of the operations map (C07): `namesForParam` ranges over
  `operations` (a Go map keyed by the operation's `$ref`) and appends one candidate name per hit; the
  names are sorted (`sort.Strings`) before they are used.  Also `sortDesc_perm`, the visit order of `stripOAIGen`; and,
  in namespace `Proofs.GatherPerm`, the definition `mkOpRef` in whose terms `C07.gatherOperations_order_independent`
  is stated.
-/

namespace Proofs.NamesPerm
open Flatten OutcomeM

theorem strLe_trans (a b c : String) (h1 : strLe a b = true) (h2 : strLe b c = true) : strLe a c = true := by
  simp only [strLe, decide_eq_true_eq] at *
  exact String.le_trans h1 h2

theorem strLe_total (a b : String) : (strLe a b || strLe b a) = true := by
  simp only [strLe, Bool.or_eq_true, decide_eq_true_eq]
  exact String.le_total a b

theorem strLe_antisymm (a b : String) (h1 : strLe a b = true) (h2 : strLe b a = true) : a = b := by
  simp only [strLe, decide_eq_true_eq] at *
  exact String.le_antisymm h1 h2

theorem sortStrings_perm {l l' : List String} (hp : l.Perm l') : l.mergeSort strLe = l'.mergeSort strLe :=
  List.mergeSort_eq_of_perm strLe strLe_trans strLe_total strLe_antisymm hp

/-- the candidate names up to their order, with the same start index -/
def Same (r r' : List (List String) × Nat) : Prop := r.1.Perm r'.1 ∧ r.2 = r'.2

theorem Same.refl (r : List (List String) × Nat) : Same r r := ⟨.refl _, rfl⟩

/-- the map is used through `lookup` (order-free when the keys are distinct) and through one `filter` -/
theorem namesForParam_perm (x : Ext) (s : List String) {ops ops' : List (String × OpRef)} (hp : ops.Perm ops')
    (hn : (ops.map (·.1)).Nodup) : OkRel Same (namesForParam x s ops) (namesForParam x s ops') := by
  unfold namesForParam
  simp only [← List.lookup_perm hp hn]
  exact .bind_same fun piref => .ite (.refl Same.refl _) <| .ite
    (.bind_same fun pref => .pure ⟨(hp.filter _).map _, by rw [(hp.filter _).isEmpty_eq]⟩) (.refl Same.refl _)

theorem namesForOperation_perm (x : Ext) (s : List String) {ops ops' : List (String × OpRef)} (hp : ops.Perm ops')
    (hn : (ops.map (·.1)).Nodup) : OkRel Same (namesForOperation x s ops) (namesForOperation x s ops') := by
  unfold namesForOperation
  simp only [← List.lookup_perm hp hn]
  refine .bind (.ite (namesForParam_perm x s hp hn) (.refl Same.refl _)) fun r r' hr =>
    .ite (.bind_same fun piref => .ite ?_ (.pure hr)) (.pure hr)
  cases ops.lookup piref with
  | none => exact .pure hr
  | some op => exact .bind_same fun rn => .pure ⟨hr.1.append_right _, rfl⟩

theorem namesFromKey_perm (x : Ext) (s : List String) (fl : Classify.Flags) {ops ops' : List (String × OpRef)}
    (hp : ops.Perm ops') (hn : (ops.map (·.1)).Nodup) :
    OkRel Eq (namesFromKey x s fl ops) (namesFromKey x s fl ops') := by
  exact .bind (.ite (namesForOperation_perm x s hp hn) (.refl Same.refl _)) fun r r' hr =>
    .pure (by rw [hr.2]; exact sortStrings_perm ((hr.1.map _).filter _))

def geStr (a b : String) : Bool := strLe b a

theorem sortDesc_perm {l l' : List String} (hp : l.Perm l') : l.mergeSort geStr = l'.mergeSort geStr :=
  List.mergeSort_eq_of_perm geStr (fun a b c h1 h2 => strLe_trans c b a h2 h1) (fun a b => strLe_total b a)
    (fun a b h1 h2 => strLe_antisymm a b h2 h1) hp

end Proofs.NamesPerm

namespace Proofs.GatherPerm
open J Flatten

def mkOpRef (x : Ext) (o : String × String × J) : Outcome OpRef := do
  let key ← ask "goName" x.goName (Str.toLowerAscii o.1 ++ " " ++ o.2.1)
  let ref ← ask "mkRef" x.mkRef ("#" ++ Str.join ["/paths", Str.esc o.2.1, o.1])
  pure ({ method := o.1, path := o.2.1, key := key, id := o.2.2.getStr "operationId", ref := ref } : OpRef)

end Proofs.GatherPerm
