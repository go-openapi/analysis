import Verif.Proofs.RetargetModel
import Verif.Proofs.Outcome
import Verif.Proofs.FlattenBase

/-!
  A sequence of re-targetings preserves meaning: a statement of C01 about a phase.

  `normalizeRef` rewrites, one after the other, every `$ref` that carries the absolute path of the root document to the
  local spelling `#/definitions/<name>`: the old and the new `$ref` string designate the same position.  Each step is a
  re-targeting in the sense of `Proofs.Retarget` (with `Reaches.refl`); the hypotheses of a step are re-established
  after the previous ones (canonical keys, adequacy of the hop bound, the `$ref` still found at the next key).
-/

namespace Proofs.RetargetFold
open J Replace Spec.Meaning Proofs.Bisim Proofs.Retarget Proofs.RetargetModel Proofs.Move Proofs.MoveBase Proofs.UpdateComm

theorem keysCanon_updR (d d' : J) (toks : List String) (v' : String) (a1 : J)
    (h : updR v' .swagger d toks = some d') (hget : Spec.Pointer.get d toks = some a1) (hk : keysCanon d = true) :
    keysCanon d' = true :=
  keysCanon_setAt hk (keysCanon_set (keysCanon_get hk hget) (by decide : canonTokB "$ref" = true) rfl) (updR_setAt h hget)

structure Step where
  toks : List String
  v' : String

def applySteps (steps : List Step) (d : J) : Option J :=
  steps.foldlM (fun d s => updR s.v' .swagger d s.toks) d

def GoodAll (p : Pos) : Prop := p.1 ≠ "" ∨ AllCanon p.2

theorem good_iff (toks : List String) (p : Pos) :
    Good toks p ↔ GoodAll p ∧ ¬ (p.1 = "" ∧ (toks ++ ["$ref"]) <+: p.2) := by
  unfold Good GoodAll
  by_cases h : p.1 = "" <;> simp [h]

/-- what a step needs to find at its key, with both `$ref` strings designating the same position (not `Bisim.StepOK`) -/
def StepOK (d : J) (T : List (String × Pos)) (s : Step) : Prop :=
  ∃ a q, Spec.Pointer.get d s.toks = some a ∧ Doc.refStr a ≠ "" ∧ s.v' ≠ "" ∧
    T.lookup (Doc.refStr a) = some q ∧ T.lookup s.v' = some q ∧ AllCanon s.toks

def Apart (s1 s2 : Step) : Prop :=
  s1.toks ≠ s2.toks ∧ ¬ (s1.toks ++ ["$ref"]) <+: s2.toks ∧ ¬ (s2.toks ++ ["$ref"]) <+: s1.toks

theorem target_indep (d d' : J) (T : List (String × Pos)) (rest : Bundle) (doc s : String) :
    (bundleWith d' T rest).target doc s = (bundleWith d T rest).target doc s := rfl

/-- below the `$ref` member of the rewritten schema a chase ends at once or not at all -/
theorem chase_in_ref (d' : J) (T : List (String × Pos)) (rest : Bundle) (toks : List String) (a1 : J) (v' : String)
    (hobj : ∃ m, a1 = .obj m)
    (hget' : Spec.Pointer.get d' toks = some (a1.set "$ref" (.str v'))) (r : List String) (h hops : Nat) (hpos : 0 < hops)
    (e : Pos) (hc : chase (bundleWith d' T rest) h ("", toks ++ "$ref" :: r) = some e) :
    chase (bundleWith d' T rest) hops ("", toks ++ "$ref" :: r) = some e := by
  obtain ⟨m, rfl⟩ := hobj
  have hnode : (bundleWith d' T rest).node ("", toks ++ "$ref" :: r) = Spec.Pointer.get (.str v') r := by
    rw [node_root, PointerProof.get_append, hget']
    simp [Spec.Pointer.get, Spec.Pointer.step, J.set, J.lookup_setKv_self]
  cases h with
  | zero => simp [chase] at hc
  | succ h =>
    obtain ⟨k, rfl⟩ : ∃ k, hops = k + 1 := ⟨hops - 1, by omega⟩
    rcases chase_succ_iff.1 hc with ⟨he, rfl⟩ | ⟨_, ⟨j, hj, hr, _⟩, _⟩
    · exact chase_end he k
    · -- no `$ref` is found in or below a string
      rw [hnode] at hj
      cases r with
      | nil => cases hj; exact absurd rfl hr
      | cons t r2 => simp [Spec.Pointer.get, Spec.Pointer.step] at hj

/-- what one valid step gives for the next one; the runs do not use the frame conjunct (they use `updR_keeps_ref`) -/
theorem step_invariants (T : List (String × Pos)) (rest : Bundle) (hops : Nat) (hpos : 0 < hops)
    (d d1 : J) (s : Step) (h1 : updR s.v' .swagger d s.toks = some d1)
    (a : J) (q0 q' : Pos) (hget : Spec.Pointer.get d s.toks = some a) (hv1 : Doc.refStr a ≠ "") (hv2 : s.v' ≠ "")
    (ht1 : T.lookup (Doc.refStr a) = some q0) (ht2 : T.lookup s.v' = some q')
    (hreach : Reaches (bundleWith d T rest) q0 q') (hcanon : AllCanon s.toks)
    (hT : ∀ doc s' q, (bundleWith d T rest).target doc s' = some q → GoodAll q ∧ "$ref" ∉ q.2)
    (hk : keysCanon d = true) (had : RSetting.AdequateOn GoodAll (bundleWith d T rest) hops) :
    (∀ n p, Good s.toks p → unfold (bundleWith d T rest) hops n p = unfold (bundleWith d1 T rest) hops n p) ∧
    keysCanon d1 = true ∧ RSetting.AdequateOn GoodAll (bundleWith d1 T rest) hops ∧
    (∀ p, Good s.toks p → p ≠ ("", s.toks) →
      ((bundleWith d T rest).node p = none ∧ (bundleWith d1 T rest).node p = none) ∨
      (∃ a' c', (bundleWith d T rest).node p = some a' ∧ (bundleWith d1 T rest).node p = some c' ∧
        Doc.refStr c' = Doc.refStr a' ∧ ShapeEq a' c')) := by
  have hgoodT : ∀ doc s' q'', (bundleWith d T rest).target doc s' = some q'' → Good s.toks q'' := by
    intro doc s' q'' ht
    obtain ⟨hg, hnr⟩ := hT doc s' q'' ht
    exact (good_iff _ _).2 ⟨hg, fun hpre => hnr (hpre.2.subset (by simp))⟩
  let S := retargetSetting d d1 s.toks s.v' h1 T rest a hget hv1 hv2 q0 q' ht1 ht2 hreach hcanon hk hgoodT
  have hadS : RSetting.AdequateOn (Good s.toks) (bundleWith d T rest) hops :=
    fun h' p' e' hg' hc' => had h' p' e' ((good_iff _ _).1 hg').1 hc'
  refine ⟨S.retarget_preserves_on hops hadS, keysCanon_updR d d1 s.toks s.v' a h1 hget hk, ?_, S.hnodes⟩
  -- adequacy on all good positions: those below the new `$ref` member are not good for this step, but a chase from
  -- there ends at once or not at all
  intro h' p' e' hg' hc'
  by_cases hin : p'.1 = "" ∧ (s.toks ++ ["$ref"]) <+: p'.2
  · obtain ⟨pd, pp⟩ := p'
    obtain ⟨rfl, r, rfl⟩ := hin
    rw [List.append_assoc] at hc' ⊢
    exact chase_in_ref d1 T rest s.toks a s.v' (refStr_obj hv1)
      (SetAt.get_setAt_self (updR_setAt h1 hget)) r h' hops hpos e' hc'
  · exact S.adequateOn_preserved hops hadS h' p' e' ((good_iff _ _).2 ⟨hg', hin⟩) hc'

/-- each step finds, *in the document it is applied to*, a `$ref` whose chain leads to the position the new `$ref`
    string designates (what `DeepestRef` guarantees) -/
inductive RetargetRun (T : List (String × Pos)) (rest : Bundle) : J → List Step → J → Prop
  | nil (d : J) : RetargetRun T rest d [] d
  | cons {d d1 dn : J} {s : Step} {ss : List Step} :
      updR s.v' .swagger d s.toks = some d1 →
      (∃ a q0 q', Spec.Pointer.get d s.toks = some a ∧ Doc.refStr a ≠ "" ∧ s.v' ≠ "" ∧
        T.lookup (Doc.refStr a) = some q0 ∧ T.lookup s.v' = some q' ∧
        Reaches (bundleWith d T rest) q0 q' ∧ AllCanon s.toks) →
      RetargetRun T rest d1 ss dn → RetargetRun T rest d (s :: ss) dn

theorem retargetRun_preserves (T : List (String × Pos)) (rest : Bundle) (hops : Nat) (hpos : 0 < hops)
    {d0 dn : J} {steps : List Step} (hrun : RetargetRun T rest d0 steps dn) :
    (∀ doc s q, (bundleWith d0 T rest).target doc s = some q → GoodAll q ∧ "$ref" ∉ q.2) →
    keysCanon d0 = true → RSetting.AdequateOn GoodAll (bundleWith d0 T rest) hops →
    ∀ n p, (∀ s ∈ steps, Good s.toks p) → GoodAll p →
      unfold (bundleWith d0 T rest) hops n p = unfold (bundleWith dn T rest) hops n p := by
  induction hrun with
  | nil d => intro _ _ _ n p _ _; rfl
  | @cons d d1 dn s ss h1 hstep _ ih =>
    intro hT hk had n p hgood hgall
    obtain ⟨a, q0, q', hget, hv1, hv2, ht1, ht2, hreach, hcanon⟩ := hstep
    obtain ⟨hmean, hk1, had1, _⟩ := step_invariants T rest hops hpos d d1 s h1 a q0 q' hget hv1 hv2 ht1 ht2 hreach hcanon
      hT hk had
    exact (hmean n p (hgood s List.mem_cons_self)).trans
      (ih hT hk1 had1 n p (fun s2 hs2 => hgood s2 (List.mem_cons_of_mem _ hs2)) hgall)

/-- the `$ref` a later step needs is still at its key after the earlier ones; a step to the position its old `$ref`
    designates is trivially on its chain -/
theorem applySteps_run (T : List (String × Pos)) (rest : Bundle) : ∀ (steps : List Step) (d0 dn : J),
    applySteps steps d0 = some dn → (∀ s ∈ steps, StepOK d0 T s) → steps.Pairwise Apart →
    RetargetRun T rest d0 steps dn := by
  intro steps
  induction steps with
  | nil =>
    intro d0 dn h _ _
    cases h
    exact .nil d0
  | cons s ss ih =>
    intro d0 dn h hsteps hpw
    simp only [applySteps, List.foldlM_cons, Option.bind_eq_bind, Option.bind_eq_some_iff] at h
    obtain ⟨d1, h1, h⟩ := h
    obtain ⟨⟨a, q, hget, hv1, hv2, ht1, ht2, hcanon⟩, hsteps⟩ := List.forall_mem_cons.1 hsteps
    obtain ⟨hap, hpw⟩ := List.pairwise_cons.1 hpw
    refine .cons h1 ⟨a, q, q, hget, hv1, hv2, ht1, ht2, .refl _, hcanon⟩ (ih d1 dn h (fun s2 hs2 => ?_) hpw)
    obtain ⟨a2, q2, hget2, hv12, hv22, ht12, ht22, hcanon2⟩ := hsteps s2 hs2
    obtain ⟨c, hc, hr⟩ := updR_keeps_ref h1 hget hv1 hcanon hcanon2 (hap s2 hs2).2.1 (Ne.symm (hap s2 hs2).1) hget2
    exact ⟨c, q2, hc, hr ▸ hv12, hv22, hr ▸ ht12, ht22, hcanon2⟩

theorem applySteps_preserves (T : List (String × Pos)) (rest : Bundle) (hops : Nat) (hpos : 0 < hops) :
    ∀ (steps : List Step) (d0 dn : J),
      applySteps steps d0 = some dn →
      (∀ doc s q, (bundleWith d0 T rest).target doc s = some q → GoodAll q ∧ "$ref" ∉ q.2) →
      (∀ s ∈ steps, StepOK d0 T s) → steps.Pairwise Apart → keysCanon d0 = true →
      RSetting.AdequateOn GoodAll (bundleWith d0 T rest) hops →
      ∀ n p, (∀ s ∈ steps, Good s.toks p) → GoodAll p →
        unfold (bundleWith d0 T rest) hops n p = unfold (bundleWith dn T rest) hops n p := by
  intro steps d0 dn h hT hsteps hpw hk had
  exact retargetRun_preserves T rest hops hpos (applySteps_run T rest steps d0 dn h hsteps hpw) hT hk had

def normStep (x : Flatten.Ext) (kv : String × String) : Step :=
  ⟨keyTokens kv.1, (x.mkRef (Str.join ["#/definitions", Str.base kv.2])).getD ""⟩

/-- the hypothesis is `Proofs.OrderIndep.normalizeFold` unfolded -/
theorem normalize_loop_steps (x : Flatten.Ext) : ∀ (hits : List (String × String)) (d dn : J),
    hits.foldlM (fun d kv => do
      let r ← Flatten.ask "mkRef" x.mkRef (Str.join ["#/definitions", Str.base kv.2])
      Replace.updateRef d kv.1 r) d = .ok dn →
    applySteps (hits.map (normStep x)) d = some dn := by
  intro hits
  induction hits with
  | nil => intro d dn h; simp [List.foldlM] at h; simp [applySteps, h]
  | cons kv rest ih =>
    intro d dn h
    simp only [List.foldlM_cons] at h
    obtain ⟨d1, h1, h2⟩ := OutcomeM.bind_eq_ok.1 h
    obtain ⟨r, hr, hu⟩ := OutcomeM.bind_eq_ok.1 h1
    have hstep : updR (normStep x kv).v' .swagger d (normStep x kv).toks = some d1 := by
      simp only [normStep, Proofs.FlattenBase.ask_eq_ok.1 hr, Option.getD_some]
      exact (updateRef_ok_iff d kv.1 r d1).1 hu
    simp only [applySteps, List.map_cons, List.foldlM_cons, Option.bind_eq_bind, hstep, Option.bind_some]
    exact ih d1 dn h2

end Proofs.RetargetFold
