import Verif.Spec.Classify
import Verif.Proofs.JsonLemmas
import Verif.Proofs.Outcome

/-!
  C20 (schema classification): the step of `Classify.classify` as two equations, for a node with and without
  `$ref`; on them coherence, `$ref` transparency, the documented rules and the self-referential array of defect D9.
-/

namespace Proofs.Classify
open J _root_.Classify Spec.Classify

/-! One step of `classify`.

  `inferMap` and `inferArray` each compute one flag, from the shallow flags and (at most) one recursive call; at a
  `$ref` both are idle and `inferFromRef` discards the flags of the node; without a `$ref` it only adds
  `isSimpleSchema`.  So the step is one of two compositions, according to whether the node carries a `$ref`. -/

/-- `inferMap`: the value of `isSimpleMap` -/
def simpleMap (fc : Facts) (x : Ext) (root : J) (fuel : Nat) (visited : List String) (s : J) : Outcome Bool :=
  if (shallow x s).isMap then
    match schemaOrBool s "additionalProperties" with
    | some (some sch, _) => (classify fc x root fuel visited sch).bind fun m => .ok m.isSimpleSchema
    | some (none, allows) => .ok allows
    | none => .ok false
  else .ok false

/-- `inferArray`: the value of `isSimpleArray` -/
def simpleArr (fc : Facts) (x : Ext) (root : J) (fuel : Nat) (visited : List String) (s : J) : Outcome Bool :=
  if (shallow x s).isArray then
    match itemsOf s with
    | some (.inl it) => (classify fc x root fuel visited it).bind fun a => .ok a.isSimpleSchema
    | _ => .ok !(shallow x s).hasItems
  else .ok false

/-- `inferFromRef` at a node whose `$ref` is `r` -/
def viaRef (fc : Facts) (x : Ext) (root : J) (fuel : Nat) (visited : List String) (r : String) : Outcome Flags :=
  if fc.schemaRefGuard && visited.contains r then .ok { hasRef := true }
  else if danglingFrom x root (fuel + 1) [] [r] then .err "unresolved $ref"
  else match resolve x root r with
    | none => .err "unresolved $ref"
    | some target => (classify fc x root fuel (r :: visited) target).bind fun t => .ok (inferSimple t)

theorem classify_zero (fc : Facts) (x : Ext) (root : J) (visited : List String) (s : J) :
    classify fc x root 0 visited s = .outOfFuel := rfl

theorem shallow_ref {x : Ext} {s : J} (hr : Doc.refStr s ≠ "") :
    (shallow x s).hasRef = true ∧ (shallow x s).isMap = false ∧ (shallow x s).isArray = false := by
  simp [shallow, initFlags, isObjectType, isArrayType, hr]

theorem initFlags_hasRef_false {s : J} (hr : Doc.refStr s = "") : (initFlags s).hasRef = false := by
  simp [initFlags, hr]

theorem hasAI_false {s : J} (h : (s.get? "additionalItems").isSome = false) :
    (initFlags s).hasAdditionalItems = false := by
  rw [Option.isSome_eq_false_iff, Option.isNone_iff_eq_none] at h
  simp [initFlags, schemaOrBool, h]

theorem classify_ref {fc : Facts} {x : Ext} {root : J} {fuel : Nat} {visited : List String} {s : J}
    (hr : Doc.refStr s ≠ "") :
    classify fc x root (fuel + 1) visited s = viaRef fc x root fuel visited (Doc.refStr s) := by
  obtain ⟨h, hm, ha⟩ := shallow_ref (x := x) hr
  rw [classify]
  simp only [hm, ha, h, Outcome.bind_ok, if_true, Bool.false_eq_true, if_false]
  rfl

theorem classify_noref {fc : Facts} {x : Ext} {root : J} {fuel : Nat} {visited : List String} {s : J}
    (hr : Doc.refStr s = "") :
    classify fc x root (fuel + 1) visited s =
      (simpleMap fc x root fuel visited s).bind fun m =>
      (simpleArr fc x root fuel visited s).bind fun a =>
      .ok (inferSimple { shallow x s with isSimpleMap := m, isSimpleArray := a }) := by
  rw [classify]
  unfold simpleMap simpleArr
  -- of the shallow flags only this much matters here; as a variable they make every step below cheap to check
  have h0 : (shallow x s).hasRef = false := initFlags_hasRef_false hr
  have h1 : (shallow x s).isSimpleMap = false := rfl
  have h2 : (shallow x s).isSimpleArray = false := rfl
  generalize shallow x s = f at *
  refine Outcome.bind_via (g := fun m => { f with isSimpleMap := m }) ?_ fun m =>
    Outcome.bind_via (g := fun a => { f with isSimpleMap := m, isSimpleArray := a }) ?_ fun a =>
      if_neg (by simp [h0])
  -- where a pass is idle its flag keeps the shallow value `false`: `{ f with isSimpleMap := f.isSimpleMap }` is `f` by eta
  · split
    · rcases schemaOrBool s "additionalProperties" with _ | ⟨_ | sch, b⟩
      · rw [← h1]; rfl
      · rfl
      · symm; exact Outcome.bind_assoc ..
    · rw [← h1]; rfl
  · split
    · rcases itemsOf s with _ | it | _
      · rfl
      · symm; exact Outcome.bind_assoc ..
      · rfl
    · rw [← h2]; rfl

theorem simpleMap_notMap {fc : Facts} {x : Ext} {root : J} {fuel : Nat} {visited : List String} {s : J}
    (h : (shallow x s).isMap = false) : simpleMap fc x root fuel visited s = .ok false := by
  simp [simpleMap, h]

theorem simpleArr_notArray {fc : Facts} {x : Ext} {root : J} {fuel : Nat} {visited : List String} {s : J}
    (h : (shallow x s).isArray = false) : simpleArr fc x root fuel visited s = .ok false := by
  simp [simpleArr, h]

theorem classify_ok_noref {fc : Facts} {x : Ext} {root : J} {fuel : Nat} {visited : List String} {s : J} {f : Flags}
    (hr : Doc.refStr s = "") (h : classify fc x root fuel visited s = .ok f) :
    ∃ a m, f = inferSimple { shallow x s with isSimpleMap := m, isSimpleArray := a } ∧
        ((shallow x s).isArray = false → a = false) ∧ ((shallow x s).isMap = false → m = false) := by
  cases fuel with
  | zero => cases h
  | succ fuel =>
    rw [classify_noref hr] at h
    obtain ⟨m, hm, h⟩ := OutcomeM.bind'_eq_ok.1 h
    obtain ⟨a, ha, h⟩ := OutcomeM.bind'_eq_ok.1 h
    refine ⟨a, m, (Outcome.ok.inj h).symm, fun h => ?_, fun h => ?_⟩
    · rw [simpleArr_notArray h] at ha; exact (Outcome.ok.inj ha).symm
    · rw [simpleMap_notMap h] at hm; exact (Outcome.ok.inj hm).symm

theorem shallow_excl (x : Ext) (s : J) :
    ((shallow x s).isMap && (shallow x s).isExtendedObject) = false ∧
    ((shallow x s).isTuple && (shallow x s).isTupleWithExtra) = false ∧
    ((shallow x s).isArray && ((shallow x s).isTuple || (shallow x s).isTupleWithExtra)) = false := by
  simp only [shallow]
  refine ⟨?_, ?_, ?_⟩
  · cases (initFlags s).hasProps <;> cases (initFlags s).hasAllOf <;> simp
  · cases (initFlags s).hasAdditionalItems <;> simp
  · cases itemsOf s with
    | none => simp
    | some v => cases v <;> simp

theorem coherent_inferSimple {t : Flags} (h : coherent t = true) : coherent (inferSimple t) = true := by
  simp only [coherent, inferSimple, Bool.and_eq_true] at h ⊢
  simp [h]

theorem inferSimple_of_coherent {t : Flags} (h : coherent t = true) : inferSimple t = t := by
  simp only [coherent, Bool.and_eq_true, beq_iff_eq] at h
  cases t
  simp only [inferSimple] at h ⊢
  -- the first clause of `coherent`: `isSimpleSchema` already is the disjunction that `inferSimple` assigns
  simp [h.1.1.1.1.1]

theorem coherent_decorated {f : Flags} {a m : Bool} (h1 : (f.isMap && f.isExtendedObject) = false)
    (h2 : (f.isTuple && f.isTupleWithExtra) = false) (h3 : (f.isArray && (f.isTuple || f.isTupleWithExtra)) = false)
    (ha : f.isArray = false → a = false) (hm : f.isMap = false → m = false) :
    coherent (inferSimple { f with isSimpleMap := m, isSimpleArray := a }) = true := by
  have ha : (!a || f.isArray) = true := by
    cases h : f.isArray
    · rw [ha h]; rfl
    · exact Bool.or_true _
  have hm : (!m || f.isMap) = true := by
    cases h : f.isMap
    · rw [hm h]; rfl
    · exact Bool.or_true _
  simp [coherent, inferSimple, h1, h2, h3, ha, hm]

theorem coherence (fc : Facts) (x : Ext) (root : J) (fuel : Nat) :
    ∀ (visited : List String) (s : J) (f : Flags),
      classify fc x root fuel visited s = .ok f → coherent f = true := by
  induction fuel with
  | zero => intro _ _ _ h; cases h
  | succ fuel ih =>
    intro visited s
    by_cases hr : Doc.refStr s = ""
    · intro f h
      obtain ⟨a, m, rfl, ha, hm⟩ := classify_ok_noref hr h
      obtain ⟨h1, h2, h3⟩ := shallow_excl x s
      exact coherent_decorated h1 h2 h3 ha hm
    · -- at a `$ref`: the reset flags of the guard's cut, or a result for the target, re-exported
      rw [classify_ref hr, viaRef]
      show OutcomeM.Post _ fun f => coherent f = true
      -- `Post` of an `.err` holds vacuously
      refine .ite (fun _ => ?_) fun _ => .ite (fun _ _ h => nomatch h) fun _ => ?_
      · exact .pure (a := ({ hasRef := true } : Flags)) (by decide)
      · split
        · exact fun _ h => nomatch h
        · exact .bind fun t ht => .pure (coherent_inferSimple (ih _ _ _ ht))

theorem bind_inferSimple_classify (fc : Facts) (x : Ext) (root : J) (n : Nat) (visited : List String) (t : J) :
    ((classify fc x root n visited t).bind fun f => .ok (inferSimple f)) = classify fc x root n visited t := by
  cases h : classify fc x root n visited t with
  | ok f => simp [Outcome.bind, inferSimple_of_coherent (coherence fc x root n visited t f h)]
  | _ => rfl

theorem ref_transparent (fc : Facts) (x : Ext) (root : J) (n : Nat) (visited : List String) (s target : J)
    (hr : Doc.refStr s ≠ "")
    (hv : (fc.schemaRefGuard && visited.contains (Doc.refStr s)) = false)
    (hres : resolve x root (Doc.refStr s) = some target)
    (hd : danglingFrom x root (n + 1) [] [Doc.refStr s] = false) :
    classify fc x root (n + 1) visited s = classify fc x root n (Doc.refStr s :: visited) target := by
  rw [classify_ref hr, viaRef, hv, hd, hres]
  exact bind_inferSimple_classify ..

theorem isComplex_noref {fc : Facts} {x : Ext} {root : J} {fuel : Nat} {visited : List String} {s : J} {f : Flags}
    (hr : Doc.refStr s = "") (h : classify fc x root fuel visited s = .ok f) :
    isComplex f = !((shallow x s).isKnownType || (shallow x s).isArray || (shallow x s).isMap) := by
  obtain ⟨a, m, rfl, ha, hm⟩ := classify_ok_noref hr h
  show (!((shallow x s).isKnownType || a || m) && !(shallow x s).isArray && !(shallow x s).isMap) = _
  cases hA : (shallow x s).isArray
  · cases hM : (shallow x s).isMap
    · simp [ha hA, hm hM]
    · simp
  · simp

theorem typeOf_of_getStr {s : J} (h : s.getStr "type" ≠ "") : typeOf s = some [s.getStr "type"] := by
  unfold getStr at h ⊢; unfold typeOf
  cases hg : s.get? "type" with
  | none => simp [hg] at h
  | some v => cases v <;> simp_all

theorem typeOf_of_none {s : J} (h : (s.get? "type").isNone = true) : typeOf s = none := by
  unfold typeOf
  cases hg : s.get? "type" with
  | none => rfl
  | some v => simp [hg] at h

theorem shallow_prim {x : Ext} {s : J} (hp : prims.contains (s.getStr "type") = true) :
    (shallow x s).isKnownType = true := by
  have hc : typeContains s (s.getStr "type") = true := by
    simp [typeContains, typeOf_of_getStr (s := s) (by intro h; rw [h] at hp; cases hp)]
  have hp : s.getStr "type" = "string" ∨ s.getStr "type" = "integer" ∨ s.getStr "type" = "number" ∨
      s.getStr "type" = "boolean" := by simpa [prims] using hp
  simp only [shallow]
  rcases hp with h | h | h | h <;> rw [h] at hc <;> simp only [hc, Bool.or_true, Bool.true_or]

theorem shallow_array {x : Ext} {s : J} (hr : Doc.refStr s = "") (hf : s.getStr "format" = "")
    (ht : s.getStr "type" = "array") :
    (shallow x s).isKnownType = false ∧ (shallow x s).isMap = false ∧
    (shallow x s).isArray = !(match itemsOf s with | some (.inr _) => true | _ => false) := by
  have hty : typeOf s = some ["array"] := ht ▸ typeOf_of_getStr (by rw [ht]; decide)
  simp [shallow, typeContains, isObjectType, isArrayType, hty, initFlags_hasRef_false hr, hf]
  rfl

theorem shallow_object {x : Ext} {s : J} (hr : Doc.refStr s = "") (hf : s.getStr "format" = "")
    (ho : s.getStr "type" = "object" ∨ (s.get? "type").isNone = true)
    (hai : (s.get? "additionalItems").isSome = false) :
    (shallow x s).isKnownType =
      (!(initFlags s).hasProps && !(initFlags s).hasAllOf && !(initFlags s).hasAdditionalProps) ∧
    (shallow x s).isMap = ((initFlags s).hasAdditionalProps && !((initFlags s).hasProps || (initFlags s).hasAllOf)) ∧
    (shallow x s).isArray = false := by
  have hai := hasAI_false hai
  rcases ho with ho | ho
  · have hty : typeOf s = some ["object"] := ho ▸ typeOf_of_getStr (by rw [ho]; decide)
    simp [shallow, typeContains, isObjectType, isArrayType, hty, initFlags_hasRef_false hr, hf, hai]
  · simp [shallow, typeContains, isObjectType, isArrayType, typeOf_of_none ho, initFlags_hasRef_false hr, hf, hai]

theorem ite_other {c : Prop} [Decidable c] {sh : Shape} {b : Bool} :
    expectedComplex (if c then .other else sh) = some b ↔ ¬c ∧ expectedComplex sh = some b := by
  split <;> simp [*, expectedComplex]

/-- a schema of a documented shape has no `$ref`, and the rule for its shape says whether its shallow flags make it
    of a known type, an array or a map -/
theorem rules_shallow {x : Ext} {s : J} {b : Bool} (hs : expectedComplex (shapeOf s) = some b) :
    Doc.refStr s = "" ∧ ((shallow x s).isKnownType || (shallow x s).isArray || (shallow x s).isMap) = !b := by
  -- the `let`s of `shapeOf` go into the context: `ap` stands for its `match` on `additionalProperties`
  delta shapeOf at hs
  extract_lets t hasProps hasAllOf ap items hasAI at hs
  have hap : (initFlags s).hasAdditionalProps = ap := by
    simp only [ap, initFlags, schemaOrBool]
    cases s.get? "additionalProperties" with
    | none => rfl
    | some v => cases v <;> first | rfl | (rename_i b; cases b <;> rfl)
  have hhp : (initFlags s).hasProps = hasProps := rfl
  have hha : (initFlags s).hasAllOf = hasAllOf := rfl
  clear_value ap hasProps hasAllOf
  simp only [t, items, hasAI] at hs
  -- down the cascade of `shapeOf`; `split at hs` on the whole cascade is very slow to check
  rw [ite_other] at hs; obtain ⟨hr, hs⟩ := hs
  rw [ite_other] at hs; obtain ⟨hf, hs⟩ := hs
  have hr : Doc.refStr s = "" := Decidable.not_not.1 hr
  refine ⟨hr, ?_⟩
  by_cases hp : prims.contains (s.getStr "type") = true
  · rw [if_pos hp, ite_other] at hs
    cases hs.2
    rw [shallow_prim hp]; rfl
  have hf : s.getStr "format" = "" := Decidable.not_not.1 fun h => hf ⟨h, hp⟩
  rw [if_neg hp] at hs
  by_cases ht : s.getStr "type" = "array"
  · rw [if_pos ht, ite_other] at hs
    obtain ⟨h1, h2, h3⟩ := shallow_array (x := x) hr hf ht
    rw [h1, h2, h3]
    simp only [itemsOf]
    -- a tuple has a non-empty array under `items`, an array an object or nothing
    obtain ⟨-, hs⟩ := hs
    split at hs
    · cases hs; simp [*]
    · cases hs
    · rw [ite_other] at hs; cases hs.2; simp [*]
    · rw [ite_other] at hs; cases hs.2; simp [*]
    · cases hs
  rw [if_neg ht] at hs
  by_cases ho : s.getStr "type" = "object" ∨ (s.get? "type").isNone = true
  · rw [if_pos ho, ite_other, not_or] at hs
    obtain ⟨h1, h2, h3⟩ := shallow_object (x := x) hr hf ho (Bool.eq_false_iff.2 hs.1.2)
    rw [h1, h2, h3, hap, hhp, hha]
    -- three Booleans decide among the four object shapes
    replace hs := hs.2
    revert hs
    cases hasProps <;> cases hasAllOf <;> cases ap <;> intro hs <;> cases hs <;> rfl
  · rw [if_neg ho] at hs; cases hs

theorem documented_rules (fc : Facts) (x : Ext) (root : J) (fuel : Nat) (visited : List String) (s : J) (f : Flags)
    (b : Bool) (hs : expectedComplex (shapeOf s) = some b)
    (h : classify fc x root fuel visited s = .ok f) : isComplex f = b := by
  obtain ⟨hr, hk⟩ := rules_shallow (x := x) hs
  rw [isComplex_noref hr h, hk, Bool.not_not]

def refA : J := .obj [("$ref", .str "#/definitions/A")]
def bodyA : J := .obj [("type", .str "array"), ("items", refA)]
def rootA : J := .obj [("definitions", .obj [("A", bodyA)])]
def extA : Ext :=
  { knownFormat := fun _ => false
    refTokens := fun r => if r = "#/definitions/A" then some ["definitions", "A"] else none }
def noGuard : Facts := { Facts.reference with schemaRefGuard := false }

theorem noGuard_guard : noGuard.schemaRefGuard = false := rfl

theorem refStr_refA : Doc.refStr refA = "#/definitions/A" := rfl

-- `simp` unfolds only the lookups on the path; `rfl` and `decide` evaluate the whole document
theorem resolve_A : resolve extA rootA "#/definitions/A" = some bodyA := by
  simp [resolve, extA, rootA, Spec.Pointer.get, Spec.Pointer.step, J.lookup]

theorem refsIn_bodyA : refsIn bodyA = ["#/definitions/A"] := by
  simp [bodyA, refA, refsIn, refsInFields, J.lookup]

theorem danglingFrom_nil (x : Ext) (root : J) (n : Nat) (seen : List String) :
    danglingFrom x root n seen [] = false := by
  cases n <;> rfl

theorem not_dangling_A (n : Nat) : danglingFrom extA rootA n [] ["#/definitions/A"] = false := by
  cases n with
  | zero => rfl
  | succ n =>
    rw [danglingFrom]
    simp only [List.contains_nil, Bool.false_eq_true, if_false, resolve_A, refsIn_bodyA]
    cases n with
    | zero => rfl
    | succ n =>
      rw [List.append_nil, danglingFrom]
      simp [danglingFrom_nil]

theorem shallow_bodyA : (shallow extA bodyA).isMap = false ∧ (shallow extA bodyA).isArray = true := by decide

theorem itemsOf_bodyA : itemsOf bodyA = some (.inl refA) := rfl

theorem classify_refA (fc : Facts) (n : Nat) (visited : List String) :
    classify fc extA rootA (n + 1) visited refA =
      if fc.schemaRefGuard && visited.contains "#/definitions/A" then .ok { hasRef := true }
      else (classify fc extA rootA n ("#/definitions/A" :: visited) bodyA).bind fun t => .ok (inferSimple t) := by
  rw [classify_ref (by rw [refStr_refA]; decide), viaRef, refStr_refA, not_dangling_A, if_neg Bool.false_ne_true,
    resolve_A]

theorem classify_bodyA (fc : Facts) (n : Nat) (visited : List String) :
    classify fc extA rootA (n + 1) visited bodyA =
      (classify fc extA rootA n visited refA).bind fun a =>
        .ok (inferSimple { shallow extA bodyA with isSimpleMap := false, isSimpleArray := a.isSimpleSchema }) := by
  rw [classify_noref (by decide), simpleMap_notMap shallow_bodyA.1, Outcome.bind_ok, simpleArr,
    shallow_bodyA.2, if_pos rfl, itemsOf_bodyA]
  exact Outcome.bind_assoc ..

theorem diverges_any_visited (n : Nat) : ∀ visited,
    classify noGuard extA rootA n visited refA = .outOfFuel ∧
    classify noGuard extA rootA n visited bodyA = .outOfFuel := by
  induction n with
  | zero => intro _; exact ⟨classify_zero .., classify_zero ..⟩
  | succ n ih =>
    intro visited
    rw [classify_refA, classify_bodyA, noGuard_guard, (ih _).1, (ih _).2]
    exact ⟨rfl, rfl⟩

/-- with the guard the same schema is classified, with any fuel from 3 on: the second visit of `A` is cut -/
theorem self_array_classified (n : Nat) :
    ∃ f, classify Facts.reference extA rootA (n + 3) [] refA = .ok f ∧
      f.isArray = true ∧ f.isSimpleArray = false ∧ isComplex f = false := by
  have arr {f : Flags} (h : f.isArray = true) : isComplex f = false := by simp [isComplex, h]
  refine ⟨_, by rw [classify_refA, classify_bodyA, classify_refA]; rfl, ?_⟩
  exact ⟨shallow_bodyA.2, rfl, arr shallow_bodyA.2⟩

end Proofs.Classify

