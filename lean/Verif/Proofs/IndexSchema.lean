import Verif.Proofs.Index

/-!
  `aSchema` (the recursion behind `analyzeSchema`) against `schemasAt`: the log of the recursive walk is, in order,
  the entries of the schema positions at or below `toks`.
-/

namespace IndexProof
open J Analyzer Spec.Index Str

theorem lastTok_snoc (toks : List String) (k : String) : lastTok (toks ++ [k]) = k := by
  simp [lastTok]

theorem isTopLevel_snoc (toks : List String) (k : String) (h : 2 ≤ toks.length) :
    isTopLevel (toks ++ [k]) = false := by
  match toks, h with
  | a :: b :: rest, _ => simp [isTopLevel]

theorem aSchema_nonobj (key name : String) (top : Bool) (j : J) (h : j.isObj = false) :
    aSchema key name top j = [] := by
  cases j <;> simp_all [aSchema, isObj]

theorem schemasAt_nonobj (toks : List String) (j : J) (h : j.isObj = false) : schemasAt toks j = [] := by
  cases j <;> simp_all [schemasAt, isObj]

theorem self_mem_schemasAt (toks : List String) (j : J) (h : j.isObj = true) : (toks, j) ∈ schemasAt toks j := by
  cases j <;> simp_all [schemasAt, isObj]

/-- The statement of `aSchema_eq`.  `2 ≤ toks.length`: a child is then not top-level, and `ptr toks ≠ "/definitions"`.
    `GoodTok`: `path.Join` cleans away "", "." and "..", and property names can be those.
    `IHM`, `IHA`: those of `aSchemaMap_eq` and of `aSchemaArr_eq` at index 0, as `fields_cons` assumes them. -/
abbrev IHS (toks : List String) (v : J) : Prop :=
  2 ≤ toks.length → (∀ p ∈ schemasAt toks v, ∀ t ∈ p.1, GoodTok t) →
    aSchema (ptr toks) (lastTok toks) (isTopLevel toks) v = (schemasAt toks v).flatMap schE

abbrev IHM (toks : List String) (m : List (String × J)) : Prop :=
  2 ≤ toks.length → (∀ t ∈ toks, GoodTok t) → (∀ p ∈ mapKids toks m, ∀ t ∈ p.1, GoodTok t) →
    aSchemaMap (ptr toks) m = (mapKids toks m).flatMap schE

abbrev IHA (toks : List String) (xs : List J) : Prop :=
  2 ≤ toks.length → (∀ t ∈ toks, GoodTok t) → (∀ p ∈ arrKids toks 0 xs, ∀ t ∈ p.1, GoodTok t) →
    aSchemaArr (ptr toks) 0 xs = (arrKids toks 0 xs).flatMap schE

theorem child_eq (toks : List String) (k : String) (v : J) (hl : 2 ≤ toks.length)
    (ht : ∀ t ∈ toks, GoodTok t)
    (hg : ∀ p ∈ schemasAt (toks ++ [k]) v, ∀ t ∈ p.1, GoodTok t)
    (ih : IHS (toks ++ [k]) v) :
    aSchema (Str.join [ptr toks, Str.esc k]) k false v = (schemasAt (toks ++ [k]) v).flatMap schE := by
  cases hv : v.isObj
  · rw [aSchema_nonobj _ _ _ _ hv, schemasAt_nonobj _ _ hv]; rfl
  · have hk : GoodTok k := hg _ (self_mem_schemasAt _ _ hv) k (by simp)
    have := ih (by simp; omega) hg
    rw [lastTok_snoc, isTopLevel_snoc _ _ hl] at this
    rw [join1 toks k ht (by intro e; simp [e] at hl) hk]
    exact this

theorem mapKeywords_iff {k : String} :
    mapKeywords.contains k = true ↔ k = "definitions" ∨ k = "properties" ∨ k = "patternProperties" := by
  simp [mapKeywords]

theorem arrKeywords_iff {k : String} : arrKeywords.contains k = true ↔ k = "allOf" ∨ k = "anyOf" ∨ k = "oneOf" := by
  simp [arrKeywords]

theorem oneKeywords_iff {k : String} :
    oneKeywords.contains k = true ↔ k = "not" ∨ k = "additionalProperties" ∨ k = "additionalItems" := by
  simp [oneKeywords]

/-- the keywords the analyzer joins to a key unescaped -/
theorem kw_good {k : String} (h : mapKeywords.contains k = true ∨ arrKeywords.contains k = true ∨ k = "items") :
    GoodTok k ∧ Str.esc k = k := by
  rcases h.imp mapKeywords_iff.1 (Or.imp_left arrKeywords_iff.1) with (rfl | rfl | rfl) | (rfl | rfl | rfl) | rfl <;>
    exact ⟨by simp [GoodTok], esc_of_plain _ (by simp) (by simp)⟩

def kidOf (toks : List String) (k : String) (v : J) : List Pos := kids toks [(k, v)]

-- `simp only [aSchemaFields]` with a variable `v` yields a proof term the kernel rejects: `kids_cons` and
-- `aSchemaFields_cons` unfold the two sides by hand
theorem kids_cons (toks : List String) (k : String) (v : J) (rest : List (String × J)) :
    kids toks ((k, v) :: rest) = kidOf toks k v ++ kids toks rest := by
  conv => lhs; unfold kids
  conv => rhs; arg 1; unfold kidOf kids; rw [kids.eq_1, List.append_nil]

theorem aSchemaFields_cons (key k : String) (v : J) (rest : List (String × J)) :
    aSchemaFields key ((k, v) :: rest) = aSchemaFields key [(k, v)] ++ aSchemaFields key rest := by
  conv => lhs; unfold aSchemaFields
  conv => rhs; arg 1; unfold aSchemaFields; rw [aSchemaFields.eq_1, List.append_nil]

/-- the analyzer (`aSchemaFields`) and the specification (`kidOf`) branch alike on a field `(k, v)` of a schema object -/
theorem field_cases (key : String) (toks : List String) (k : String) (v : J) :
    (mapKeywords.contains k = true ∧ ∃ m, v = .obj m ∧
      aSchemaFields key [(k, v)] = aSchemaMap (Str.join [key, k]) m ∧
      kidOf toks k v = mapKids (toks ++ [k]) m) ∨
    ((arrKeywords.contains k = true ∨ k = "items") ∧ ∃ xs, v = .arr xs ∧
      aSchemaFields key [(k, v)] = aSchemaArr (Str.join [key, k]) 0 xs ∧
      kidOf toks k v = arrKids (toks ++ [k]) 0 xs) ∨
    (((k = "not" ∨ k = "additionalProperties" ∨ k = "additionalItems" ∨ k = "items") ∧ ∃ m, v = .obj m) ∧
      aSchemaFields key [(k, v)] = aSchema (Str.join [key, Str.esc k]) k false v ∧
      kidOf toks k v = schemasAt (toks ++ [k]) v) ∨
    (aSchemaFields key [(k, v)] = [] ∧ kidOf toks k v = []) := by
  unfold aSchemaFields kidOf kids
  rw [aSchemaFields, kids, List.append_nil, List.append_nil]
  by_cases h1 : mapKeywords.contains k = true
  · rw [if_pos (mapKeywords_iff.1 h1), if_pos h1]
    cases v with
    | obj m => exact .inl ⟨h1, m, rfl, rfl, rfl⟩
    | _ => exact .inr (.inr (.inr ⟨rfl, rfl⟩))
  rw [if_neg (h1 ∘ mapKeywords_iff.2), if_neg h1]
  by_cases h2 : arrKeywords.contains k = true
  · rw [if_pos (arrKeywords_iff.1 h2), if_pos h2]
    cases v with
    | arr xs => exact .inr (.inl ⟨.inl h2, xs, rfl, rfl, rfl⟩)
    | _ => exact .inr (.inr (.inr ⟨rfl, rfl⟩))
  rw [if_neg (h2 ∘ arrKeywords_iff.2), if_neg h2]
  by_cases h3 : oneKeywords.contains k = true
  · rw [if_pos (oneKeywords_iff.1 h3), if_pos h3]
    cases v with
    | obj m => exact .inr (.inr (.inl ⟨⟨(oneKeywords_iff.1 h3).imp_right (·.imp_right .inl), m, rfl⟩, rfl, rfl⟩))
    | _ => exact .inr (.inr (.inr ⟨aSchema_nonobj _ _ _ _ rfl, schemasAt_nonobj _ _ rfl⟩))
  rw [if_neg (h3 ∘ oneKeywords_iff.2), if_neg h3]
  by_cases h4 : k = "items"
  · subst h4
    rw [if_pos rfl, if_pos rfl]
    cases v with
    | obj m => exact .inr (.inr (.inl ⟨⟨.inr (.inr (.inr rfl)), m, rfl⟩, rfl, rfl⟩))
    | arr xs => exact .inr (.inl ⟨.inr rfl, xs, rfl, List.append_nil _, List.append_nil _⟩)
    | _ => exact .inr (.inr (.inr ⟨rfl, rfl⟩))
  · rw [if_neg h4, if_neg h4]
    exact .inr (.inr (.inr ⟨rfl, rfl⟩))

theorem fields_cons (toks : List String) (k : String) (v : J) (rest : List (String × J)) (hl : 2 ≤ toks.length)
    (ht : ∀ t ∈ toks, GoodTok t) (hg : ∀ p ∈ kids toks ((k, v) :: rest), ∀ t ∈ p.1, GoodTok t)
    (ihS : IHS (toks ++ [k]) v) (ihM : ∀ m, v = .obj m → IHM (toks ++ [k]) m)
    (ihA : ∀ xs, v = .arr xs → IHA (toks ++ [k]) xs)
    (ihR : (∀ p ∈ kids toks rest, ∀ t ∈ p.1, GoodTok t) →
      aSchemaFields (ptr toks) rest = (kids toks rest).flatMap schE) :
    aSchemaFields (ptr toks) ((k, v) :: rest) = (kids toks ((k, v) :: rest)).flatMap schE := by
  have hne : toks ≠ [] := by intro e; simp [e] at hl
  have hl' : 2 ≤ (toks ++ [k]).length := by simp; omega
  rw [kids_cons] at hg ⊢
  rw [aSchemaFields_cons, List.flatMap_append, ihR fun p hp => hg p (List.mem_append_right _ hp)]
  congr 1
  replace hg := fun p hp => hg p (List.mem_append_left _ hp)
  rcases field_cases (ptr toks) toks k v with ⟨hk, m, rfl, e1, e2⟩ | ⟨hk, xs, rfl, e1, e2⟩ | ⟨_, e1, e2⟩ | ⟨e1, e2⟩ <;>
    rw [e2] at hg <;> rw [e1, e2]
  · obtain ⟨hk1, hk2⟩ := kw_good (.inl hk)
    rw [join1_lit toks k ht hne hk1 hk2]
    exact ihM m rfl hl' (good_snoc ht hk1) hg
  · obtain ⟨hk1, hk2⟩ := kw_good (.inr hk)
    rw [join1_lit toks k ht hne hk1 hk2]
    exact ihA xs rfl hl' (good_snoc ht hk1) hg
  · exact child_eq toks k v hl ht hg ihS
  · rfl

mutual
  theorem aSchema_eq : ∀ (toks : List String) (j : J), IHS toks j
    | toks, .obj kvs, hl, hg => by
      have ht : ∀ t ∈ toks, GoodTok t := hg (toks, .obj kvs) (by simp [schemasAt])
      have ih := aSchemaFields_eq toks kvs hl ht (fun p hp => hg p (by rw [schemasAt]; exact List.mem_cons_of_mem _ hp))
      simp only [aSchema, schemasAt, List.flatMap_cons, schE, ih]
      simp
    | _, .null, _, _ | _, .bool _, _, _ | _, .num _, _, _ | _, .str _, _, _ | _, .arr _, _, _ => by
      rw [aSchema_nonobj _ _ _ _ rfl, schemasAt_nonobj _ _ rfl]; rfl
  theorem aSchemaFields_eq : ∀ (toks : List String) (kvs : List (String × J)), 2 ≤ toks.length →
      (∀ t ∈ toks, GoodTok t) → (∀ p ∈ kids toks kvs, ∀ t ∈ p.1, GoodTok t) →
      aSchemaFields (ptr toks) kvs = (kids toks kvs).flatMap schE
    | _, [], _, _, _ => by simp [aSchemaFields, kids]
    -- split on the value: `aSchemaMap_eq _ m` and `aSchemaArr_eq _ 0 xs` must be calls on syntactic subterms
    | toks, (k, .obj m) :: rest, hl, ht, hg =>
      fields_cons toks k _ rest hl ht hg (aSchema_eq _ _) (fun _ e => by cases e; exact aSchemaMap_eq _ m)
        (fun _ e => nomatch e) (aSchemaFields_eq toks rest hl ht)
    | toks, (k, .arr xs) :: rest, hl, ht, hg =>
      fields_cons toks k _ rest hl ht hg (aSchema_eq _ _) (fun _ e => nomatch e)
        (fun _ e => by cases e; exact aSchemaArr_eq _ 0 xs) (aSchemaFields_eq toks rest hl ht)
    | toks, (k, .null) :: rest, hl, ht, hg | toks, (k, .bool _) :: rest, hl, ht, hg
    | toks, (k, .num _) :: rest, hl, ht, hg | toks, (k, .str _) :: rest, hl, ht, hg =>
      fields_cons toks k _ rest hl ht hg (aSchema_eq _ _) (fun _ e => nomatch e) (fun _ e => nomatch e)
        (aSchemaFields_eq toks rest hl ht)
  theorem aSchemaMap_eq : ∀ (toks : List String) (kvs : List (String × J)), IHM toks kvs
    | _, [], _, _, _ => by simp [aSchemaMap, mapKids]
    | toks, (k, v) :: rest, hl, ht, hg => by
      rw [mapKids] at hg
      rw [aSchemaMap, mapKids, List.flatMap_append,
        aSchemaMap_eq toks rest hl ht (fun p hp => hg p (List.mem_append_right _ hp)),
        child_eq toks k v hl ht (fun p hp => hg p (List.mem_append_left _ hp)) (aSchema_eq (toks ++ [k]) v)]
  theorem aSchemaArr_eq : ∀ (toks : List String) (i : Nat) (xs : List J), 2 ≤ toks.length →
      (∀ t ∈ toks, GoodTok t) → (∀ p ∈ arrKids toks i xs, ∀ t ∈ p.1, GoodTok t) →
      aSchemaArr (ptr toks) i xs = (arrKids toks i xs).flatMap schE
    | _, _, [], _, _, _ => by simp [aSchemaArr, arrKids]
    | toks, i, v :: rest, hl, ht, hg => by
      rw [arrKids] at hg
      rw [aSchemaArr, arrKids, List.flatMap_append,
        aSchemaArr_eq toks (i + 1) rest hl ht (fun p hp => hg p (List.mem_append_right _ hp))]
      unfold Str.itoa
      rw [child_eq toks (toString i) v hl ht (fun p hp => hg p (List.mem_append_left _ hp))
        (aSchema_eq (toks ++ [toString i]) v)]
end

end IndexProof
