import Verif.Generated.FactsOK.C11
import Verif.Properties.C13

namespace Generated

/-- C13 rests on the same facts about the analyzer as C11 -/
theorem c13_facts : C11.FactsOK facts := c11_facts

end Generated
