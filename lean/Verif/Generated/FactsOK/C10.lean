import Verif.Generated.FactsOK.Flatten
import Verif.Properties.C10

namespace Generated

theorem c10_facts : C10.FactsOK facts where
  allReload := by decide +kernel
  resetComplete := by decide +kernel
  reloadIsResetThenInit := by decide +kernel

end Generated
