import Verif.Generated.FactsOK.SrcAnalyzer
import Verif.Properties.C15

namespace Generated

theorem c15_facts : C15.FactsOK facts where
  methods := by decide +kernel
  idMethods := by decide +kernel
  nilSafe := by decide +kernel

end Generated
