import Verif.Generated.Facts
import Verif.Model.Doc

/-!
  Obligations on the facts regenerated from /repo's source (`Verif/Generated/Facts.lean`): they must
  satisfy the hypotheses under which the property theorems were proved.  One module per property,
  `Verif.Generated.FactsOK.Cnn`; a code change that alters a table makes the module fail to check.  The other modules
  (`Src*`, `Keys`, `Flatten`) compare the control skeletons and key functions translated from the source with the model's.
-/
