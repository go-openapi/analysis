import Verif.Generated.FactsOK.SrcMixin
import Verif.Properties.C17

namespace Generated

theorem c17_facts : C17.FactsOK facts where
  extDocsGuard := by decide +kernel

/-- the extra hypothesis of `C17.paths_first_wins`: `pathItemOps` only collects operations -/
theorem c17_methods : ∀ m ∈ facts.mixinMethods, Doc.isMethodKey m = true := by decide +kernel

/-- Mixin never panics, for the code as it is now -/
theorem C17_never_panics_current (p : J) (ms : List J) : ∃ r, Mixin.mixin facts p ms = .ok r :=
  C17.never_panics facts c17_facts p ms

end Generated
