import Verif.Generated.FactsOK.SrcMixin
import Verif.Properties.C18

namespace Generated

theorem c18_facts : C18.FactsOK facts where
  methods := by decide +kernel
  skipsEmpty := by decide +kernel

end Generated
