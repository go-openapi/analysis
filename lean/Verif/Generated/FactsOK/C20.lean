import Verif.Generated.FactsOK.SrcClassify
import Verif.Properties.C20

namespace Generated

theorem c20_facts : C20.FactsOK facts where
  guard := by decide +kernel

/-- classification terminates for the code as it is now -/
theorem C20_terminates_current (x : Classify.Ext) (root : J) (visited : List String) (s : J) :
    ∃ B, ∀ fuel, fuel ≥ B → Classify.classify facts x root fuel visited s ≠ .outOfFuel :=
  C20.terminates facts c20_facts x root visited s

end Generated
