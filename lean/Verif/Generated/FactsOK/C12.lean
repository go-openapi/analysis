import Verif.Generated.FactsOK.C11
import Verif.Properties.C12

namespace Generated

/-- C12 rests on the same facts about the analyzer as C11 -/
theorem c12_facts : C11.FactsOK facts := c11_facts

end Generated
