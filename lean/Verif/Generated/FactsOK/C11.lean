import Verif.Generated.FactsOK.SrcAnalyzer
import Verif.Properties.C11

namespace Generated

theorem c11_facts : C11.FactsOK facts where
  methods := by decide +kernel
  defaultHeaderEnums := by decide +kernel
  resetComplete := by decide +kernel

end Generated
