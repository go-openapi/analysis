import Verif.Generated.FactsOK.Flatten
import Verif.Properties.C07

namespace Generated

/-- every map-range loop of the Flatten code is in the table of discharged loops -/
theorem c07_facts : C07.FactsOK facts where
  ranges := by decide +kernel

end Generated
