import Verif.Generated.FactsOK.SrcFixer
import Verif.Properties.C19

namespace Generated

theorem methods_iff (ms : List String) (h : ms.Perm Doc.methods) (k : String) :
    ms.contains k = Doc.isMethodKey k := by
  unfold Doc.isMethodKey
  rw [Bool.eq_iff_iff]
  simp only [List.contains_iff_mem]
  exact h.mem_iff

theorem c19_facts : C19.FactsOK facts where
  methods := methods_iff _ (by decide +kernel)
  guard := by decide +kernel

/-- C19 for the code as it is now -/
theorem C19_current (d : J) : Fixer.fix facts d = .ok (Spec.Fixer.expected d) :=
  C19.total_and_exact facts c19_facts d

end Generated
