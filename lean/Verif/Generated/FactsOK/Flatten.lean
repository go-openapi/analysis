import Verif.Generated.FactsOK.SrcAnalyzer
import Verif.Generated.FactsOK.SrcClassify
import Verif.Generated.FactsOK.SrcInternal
import Verif.Generated.FactsOK.Keys

/-!
  The orchestration of Flatten in /repo's current source — the control skeletons of `Flatten`, `expand`,
  `importReferences`, `stripPointersAndOAIGen`, `removeUnused`, `removeUnusedShared`, translated from the
  Go AST on every run — is the orchestration the Lean pipeline (`Flatten.flatten` and the functions it
  is composed of) was written after.  A change of the order of the phases, of a guard, of a loop
  condition or of the error plumbing in those functions makes this module fail to check.
-/

namespace Generated

theorem flatten_skeletons : facts.skeletons = Facts.flattenSkeletons := by rfl

/-- the phase functions the model transcribes read, statement by statement, as they did when the model
    was last brought in line with them -/
theorem flatten_phase_skeletons : facts.phaseSkeletons = Facts.flattenPhaseSkeletons := by rfl

end Generated
