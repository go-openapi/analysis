import Verif.Generated.FactsOK.SrcAnalyzer
import Verif.Properties.C16

namespace Generated

theorem c16_facts : C16.FactsOK facts where
  readOnly := by decide +kernel
  copies := by decide +kernel

end Generated
