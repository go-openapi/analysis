import Verif.Generated.FactsOK.Flatten
import Verif.Properties.C03

namespace Generated

/-- `uniqifyName` tests every candidate case-insensitively -/
theorem c03_facts : C03.FactsOK facts where
  caseInsensitive := by decide +kernel

end Generated
