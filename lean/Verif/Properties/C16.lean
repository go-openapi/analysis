import Verif.Model.Heap

/-!
# C16 — analysis is read-only, copy-safe and safe for concurrent readers (logical part)

What is proved here is the logical half: *given* that the effect analysis of the Go source finds no
exported method of `*Spec` that writes to state reachable from the receiver or its arguments
(`FactsOK.readOnly`, re-extracted on every run), queries are functions of an unchanging state, so
every interleaving of atomic queries gives each thread the answers of a sequential caller, and
mutating a map handed out by a cloning getter affects nothing.  Data races below the granularity of
an atomic query are a property of the Go memory model that this model cannot exhibit; they are
explored with the race detector (DESIGN.md §7 C16).
-/

namespace C16
open Heap

variable {σ α : Type}

structure FactsOK (f : Facts) : Prop where
  readOnly : f.getterWrites = []
  copies : ∀ g ∈ ["ParameterPatterns", "HeaderPatterns", "ItemsPatterns", "SchemaPatterns", "AllPatterns",
                  "ParameterEnums", "HeaderEnums", "ItemsEnums", "SchemaEnums", "AllEnums"],
            f.freshMapGetters.contains g = true

/-- a query leaves the state (document and indexes) as it was -/
theorem query_readonly (f : Facts) (hf : FactsOK f) (m : Sem σ α) (s : σ) (q : String) :
    (step f m s q).1 = s := by
  simp [step, hf.readOnly]

theorem run_eq_map (f : Facts) (hf : FactsOK f) (m : Sem σ α) (s : σ) (qs : List String) :
    run f m s qs = qs.map (m.answer s) := by
  induction qs with
  | nil => rfl
  | cons q qs ih =>
    simp only [run, List.map_cons]
    rw [query_readonly f hf, ih]
    rfl

theorem runSched_eq (f : Facts) (hf : FactsOK f) (m : Sem σ α) (s : σ) (evs : List (Nat × String)) :
    runSched f m s evs = evs.map fun e => (e.1, m.answer s e.2) := by
  induction evs with
  | nil => rfl
  | cons e evs ih =>
    obtain ⟨t, q⟩ := e
    simp only [runSched, List.map_cons]
    rw [query_readonly f hf, ih]
    rfl

/-- interleaving-irrelevance: in every schedule (any number of threads, any interleaving), each
    thread observes exactly what it would observe issuing its queries alone, sequentially -/
theorem interleaving_irrelevant (f : Facts) (hf : FactsOK f) (m : Sem σ α) (s : σ)
    (evs : List (Nat × String)) (t : Nat) :
    observed t (runSched f m s evs) = run f m s (issued t evs) := by
  rw [runSched_eq f hf, run_eq_map f hf]
  unfold observed issued
  rw [List.filter_map, List.map_map, List.map_map]
  rfl

/-- copy-safety: mutating a map returned by a pattern / enum getter does not change the state, hence
    no later answer -/
theorem copies_are_safe (f : Facts) (hf : FactsOK f) (m : Sem σ α) (s : σ) (g : String)
    (hg : g ∈ ["ParameterPatterns", "HeaderPatterns", "ItemsPatterns", "SchemaPatterns", "AllPatterns",
               "ParameterEnums", "HeaderEnums", "ItemsEnums", "SchemaEnums", "AllEnums"])
    (qs : List String) :
    run f m (mutateReturned f m s g) qs = run f m s qs := by
  unfold mutateReturned
  rw [hf.copies g hg]
  rfl

/-- the hypothesis matters: a getter listed as writing may change later answers -/
example :
    let f : Facts := { Facts.reference with getterWrites := ["Spec.ConsumesFor"] }
    let m : Sem Nat Nat := { answer := fun s _ => s, clobber := fun s _ => s + 1, clientWrite := fun s _ => s }
    run f m 0 ["ConsumesFor", "ConsumesFor"] = [0, 1] := by
  decide

/-- non-vacuity: the reference facts satisfy the hypotheses -/
theorem reference_ok : FactsOK Facts.reference where
  readOnly := rfl
  copies := by decide

end C16
