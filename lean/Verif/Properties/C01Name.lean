import Verif.Proofs.IndexEntries
import Verif.Properties.C01Move

/-!
# C01 — one iteration of `InlineSchemaNamer.Name`, dependents included, preserves the meaning of the API

`Flatten.nameWith` (the model of one iteration of `Name`): unique name, `RewriteSchemaToRef`, save the clone, then the loop
that re-targets every `$ref` which led — through anonymous pointers — to the place that has been named.  The first three
are the naming move (`naming_move_preserves_meaning`), the loop is a run of re-targetings
(`Proofs.NameRun.depLoop_run`: what `DeepestRef` returns lies on the chain of the `$ref` it was asked about, and it cannot
stop on the named place, which now holds a `$ref`); the composition of the two is stated here for the model function,
for every document.  Hypotheses: those of the move (`Setting`, `TargetsOK`, `Stable`), and for the loop — at the document
`S.d2` the move produces — that the reference map lists what the document holds (`EntryOK`: the soundness half of C11),
with keys that are apart, a `$ref` table that agrees with the decoder, canonical keys (`hk2`: it follows from the
setting and `hloc`), and a hop bound adequate on the good positions.
-/

namespace C01
open J Spec.Meaning Proofs.Move Proofs.MoveBase Proofs.NameRun Proofs.RetargetFold Proofs.RetargetModel Proofs.Retarget
open Proofs.DeepestReaches

/-- the dependents loop of `Name`, for every document: every position that is good for all the keys of the reference map
    keeps its meaning -/
theorem name_dependents_loop_preserves_meaning (x : Flatten.Ext) (key target ref : String) (fuel : Nat)
    (T : List (String × Pos)) (rest : Bundle)
    (hT : TableOK x T) (q' : Pos) (hq' : T.lookup ref = some q') (hqt : T.lookup target = some q') (hrne : ref ≠ "")
    (ktoks : List String) (hkdir : Str.dir key ≠ "#/definitions") (hkcanon : AllCanon ktoks)
    (hops : Nat) (hpos : 0 < hops)
    (hTgood : ∀ d doc s q, (bundleWith d T rest).target doc s = some q → GoodAll q ∧ "$ref" ∉ q.2)
    (refs : List (String × String)) (d dn : J)
    (h : depLoop x key target ref fuel refs d = .ok dn)
    (hent : ∀ kv ∈ refs, EntryOK d T kv) (hpw : refs.Pairwise ApartKV)
    (hkk : ∀ kv ∈ refs, (Replace.keyTokens kv.1 = ktoks ∧ Str.dir kv.2 = "#/definitions") ∨
      Apart ⟨Replace.keyTokens kv.1, ""⟩ ⟨ktoks, ""⟩)
    (hkref : KeyIsRef x d key ktoks) (hk : keysCanon d = true)
    (had : RSetting.AdequateOn GoodAll (bundleWith d T rest) hops) :
    ∀ n p, (∀ kv ∈ refs, Good (Replace.keyTokens kv.1) p) → GoodAll p →
      unfold (bundleWith d T rest) hops n p = unfold (bundleWith dn T rest) hops n p :=
  fun n p hg hga => by
    obtain ⟨steps, hrun, hs⟩ := depLoop_run x key target ref fuel T rest hT q' hq' hqt hrne ktoks hkdir hkcanon hops hpos
      hTgood refs d dn h hent hpw hkk hkref hk had
    refine retargetRun_preserves T rest hops hpos hrun (hTgood d) hk had n p (fun s hs' => ?_) hga
    obtain ⟨kv, hkv, he⟩ := hs s hs'
    exact he ▸ hg kv hkv

/-- the `$ref` table of `S.b2` (`Setting.b2_eq`): the new `$ref` string designates the new definition -/
def tableAfter (S : Setting) : List (String × Pos) := (S.r, (("", defn S.n) : Pos)) :: S.T

theorem nameWith_with_dependents_preserves_meaning (S : Setting) (fc : Facts) (x : Flatten.Ext) (o : Flatten.Opts)
    (st st' : Flatten.St) (key : String) (parts : List String) (name : String)
    (h : Flatten.nameWith fc x o st key (.obj S.sch) parts name = .ok st')
    (hdoc : st.doc = .obj S.kvs) (hkey : Replace.keyTokens key = S.toks)
    (hloc : S.loc = .str (Flatten.genLocation parts))
    (hname : ∀ nr, Flatten.getNR key st'.ctx.newRefs = some nr →
      nr.newName = S.n ∧ nr.path = Str.join ["#/definitions", S.n])
    (href : x.mkRef (Str.join ["#/definitions", S.n]) = some S.r)
    -- the move
    (ht : S.TargetsOK) (hr : S.r ≠ "") (hops : Nat) (hst : Setting.Stable S.b1 hops)
    -- the loop, at the document the move produces
    (hT : TableOK x (tableAfter S))
    (hqt : (tableAfter S).lookup (Str.join ["#/definitions", S.n]) = some ("", defn S.n))
    (hxkey : x.refTokens key = some S.toks) (hkdir : Str.dir key ≠ "#/definitions")
    (hTgood : ∀ d doc s q, (bundleWith d (tableAfter S) S.rest).target doc s = some q → GoodAll q ∧ "$ref" ∉ q.2)
    (hent : ∀ kv ∈ Flatten.allRefs (Analyzer.analyze fc S.d2), EntryOK S.d2 (tableAfter S) kv)
    (hpw : (Flatten.allRefs (Analyzer.analyze fc S.d2)).Pairwise ApartKV)
    (hkk : ∀ kv ∈ Flatten.allRefs (Analyzer.analyze fc S.d2),
      (Replace.keyTokens kv.1 = S.toks ∧ Str.dir kv.2 = "#/definitions") ∨ Apart ⟨Replace.keyTokens kv.1, ""⟩ ⟨S.toks, ""⟩)
    (hk2 : keysCanon S.d2 = true)
    (had : RSetting.AdequateOn GoodAll (bundleWith S.d2 (tableAfter S) S.rest) (hops + 1)) :
    ∀ n (p : Pos), (p.1 ≠ "" ∨ (p.1 = "" ∧ Allowed S.toks S.n p.2)) →
      (∀ kv ∈ Flatten.allRefs (Analyzer.analyze fc S.d2), Good (Replace.keyTokens kv.1) p) → GoodAll p →
      unfold S.b1 hops n p = unfold (bundleWith st'.doc (tableAfter S) S.rest) (hops + 1) n p := by
  intro n p hp hg hga
  rw [(naming_move_preserves_meaning S ht hr hops hst).1 n p hp, S.b2_eq]
  have hloop := nameWith_decompose S fc x o st st' key parts name h hdoc hkey hloc hname href
  have hkref : KeyIsRef x S.d2 key S.toks :=
    ⟨hxkey, _, S.get_d2_toks, (Setting.refStr_refNode S.r).symm ▸ hr⟩
  exact name_dependents_loop_preserves_meaning x key (Str.join ["#/definitions", S.n]) S.r _ (tableAfter S) S.rest hT ("", defn S.n)
    (by simp [tableAfter]) hqt hr S.toks hkdir S.hcanonToks (hops + 1) (by omega) hTgood _ S.d2 st'.doc hloop
    hent hpw hkk hkref hk2 had n p hg hga

/-- The `EntryOK` hypothesis for schema references, discharged from the index theorems: every entry the analyzer's
    schema reference map lists (C11.refs_exact) sits at a key that parses back (C04.keyTokens_key) to the position at which
    the document holds (C12.resolves) a schema with that `$ref`.  What remains to assume about an entry is about its
    strings only: a fragment-only `$ref` the table knows, canonically spelled tokens.  Not used by
    `nameWith_with_dependents_preserves_meaning`: its `hent` ranges over `allRefs`. -/
theorem schema_entries_hold (f : Facts) (hf : C11.FactsOK f) (d : J) (hwf : C11.WF d) (hn : C12.NodupKeys d)
    (hpk : ∀ kv ∈ d.getObj "paths", Doc.isPathKey kv.1 = true)
    (hplain : ∀ p ∈ Spec.Index.allSchemas d, C04.PlainKey p.1)
    (T : List (String × Pos))
    (kv : String × String) (h : kv ∈ Flatten.refMap (· = "schema") (Analyzer.analyze f d))
    (hfo : Flatten.hasFragmentOnly kv.2 = true) (hT : ∃ qc, T.lookup kv.2 = some qc)
    (hc : AllCanon (Replace.keyTokens kv.1)) : EntryOK d T kv := by
  obtain ⟨a, ha, hr, hne⟩ := Proofs.IndexEntries.schemaRef_entry f hf d hwf hn hpk hplain kv h
  obtain ⟨qc, hq⟩ := hT
  exact ⟨a, qc, ha, hr, hne, hfo, hq, hc⟩

end C01
