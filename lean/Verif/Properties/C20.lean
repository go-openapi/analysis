import Verif.Proofs.ClassifyTermination

/-!
# C20 — schema classification is consistent, `$ref`-transparent and terminates

Model: `Classify.classify` (Verif/Model/Classify.lean), with fuel standing for "does it return",
the stack of `$ref`s being resolved, the facts extracted from schema.go (`schemaRefGuard`) and two
external functions (`Ext`: strfmt registry, decoding of `$ref` strings).  All theorems hold for
every `Ext`, every root document and every schema.
-/

namespace C20
open J Classify

structure FactsOK (f : Facts) : Prop where
  guard : f.schemaRefGuard = true

/-- the flags of every successful classification are coherent: simple-schema = known-type or
    simple-array or simple-map; simple-array implies array; simple-map implies map; map and
    extended-object, tuple and tuple-with-extra, array and tuple are mutually exclusive -/
theorem coherence (fc : Facts) (x : Ext) (root : J) (fuel : Nat) (visited : List String) (s : J) (f : Flags)
    (h : classify fc x root fuel visited s = .ok f) : Spec.Classify.coherent f = true :=
  Proofs.Classify.coherence fc x root fuel visited s f h

/-- a schema that carries a `$ref` classifies exactly like the schema the `$ref` designates
    (analysed one level down the stack), whatever siblings the `$ref` has -/
theorem ref_transparent (fc : Facts) (x : Ext) (root : J) (n : Nat) (visited : List String) (s target : J)
    (hr : Doc.refStr s ≠ "")
    (hv : (fc.schemaRefGuard && visited.contains (Doc.refStr s)) = false)
    (hres : resolve x root (Doc.refStr s) = some target)
    (hd : danglingFrom x root (n + 1) [] [Doc.refStr s] = false) :
    classify fc x root (n + 1) visited s = classify fc x root n (Doc.refStr s :: visited) target :=
  Proofs.Classify.ref_transparent fc x root n visited s target hr hv hres hd

/-- the documented rules: object with properties, allOf compositions and tuples are complex;
    primitives, arrays, maps and empty objects are not — for every schema of a documented shape
    whose classification succeeds -/
theorem documented_rules (fc : Facts) (x : Ext) (root : J) (fuel : Nat) (visited : List String) (s : J) (f : Flags)
    (b : Bool) (hs : Spec.Classify.expectedComplex (Spec.Classify.shapeOf s) = some b)
    (h : classify fc x root fuel visited s = .ok f) : isComplex f = b :=
  Proofs.Classify.documented_rules fc x root fuel visited s f b hs h

/-- the `$ref` strings that the eager expansion of a schema node meets (`refsIn`); not the set `terminates` counts
    over (`Proofs.Classify.allRefs`) -/
def refStrings (j : J) : List String := refsIn j

/-- nesting depth of a JSON tree; `terminates` does not use it (its witness is `Proofs.Classify.bound`) -/
def depth : J → Nat
  | .obj kvs => 1 + depthKvs kvs
  | .arr xs => 1 + depthList xs
  | _ => 1
where
  depthKvs : List (String × J) → Nat
    | [] => 0
    | (_, v) :: rest => max (depth v) (depthKvs rest)
  depthList : List J → Nat
    | [] => 0
    | v :: rest => max (depth v) (depthList rest)

/-- classification terminates, also for schemas that are arrays or maps of themselves: with the
    guard, some amount of fuel always suffices -/
theorem terminates (fc : Facts) (hf : FactsOK fc) (x : Ext) (root : J) (visited : List String) (s : J) :
    ∃ B, ∀ fuel, fuel ≥ B → classify fc x root fuel visited s ≠ .outOfFuel :=
  ⟨Proofs.Classify.bound (Proofs.Classify.allRefs s ++ Proofs.Classify.allRefs root) visited
      (Proofs.Classify.depth root) (Proofs.Classify.depth s),
    fun fuel h => Proofs.Classify.terminates fc hf.guard x root visited s fuel h⟩

/-- without the guard the analysis of an array of itself never returns (defect D9): no amount of
    fuel suffices -/
theorem diverges_without_guard :
    let root : J := .obj [("definitions", .obj [("A", .obj [("type", .str "array"), ("items", .obj [("$ref", .str "#/definitions/A")])])])]
    let x : Ext := { knownFormat := fun _ => false, refTokens := fun r => if r = "#/definitions/A" then some ["definitions", "A"] else none }
    ∀ n, classify { Facts.reference with schemaRefGuard := false } x root n [] (.obj [("$ref", .str "#/definitions/A")]) = .outOfFuel :=
  fun n => (Proofs.Classify.diverges_any_visited n []).1

/-- with the guard the same schema is classified: an array that is not a simple array -/
theorem self_array_classified :
    let root : J := .obj [("definitions", .obj [("A", .obj [("type", .str "array"), ("items", .obj [("$ref", .str "#/definitions/A")])])])]
    let x : Ext := { knownFormat := fun _ => false, refTokens := fun r => if r = "#/definitions/A" then some ["definitions", "A"] else none }
    ∃ f, classify Facts.reference x root 10 [] (.obj [("$ref", .str "#/definitions/A")]) = .ok f ∧
      f.isArray = true ∧ f.isSimpleArray = false ∧ isComplex f = false :=
  Proofs.Classify.self_array_classified 7

end C20
