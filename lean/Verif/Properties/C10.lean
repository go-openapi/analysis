import Verif.Model.Trace
import Verif.Proofs.FlattenPipeline

/-!
# C10 — the analyzer handed to Flatten stays in sync with the document

Logical core, on traces of mutations and reloads (`Trace`): if every phase ends with a reload, then when
Flatten returns the index held by the caller's `Spec` is the analysis of the rewritten document.  That the phases
of flatten.go end so is `FactsOK` (fact `phasesWithoutReload = []`, re-extracted from flatten.go on every run): an
obligation on the extracted table, which no theorem here takes as a hypothesis.
-/

namespace C10
open Trace

variable {δ ι : Type}

structure FactsOK (f : Facts) : Prop where
  allReload : f.phasesWithoutReload = []
  /-- `reload()` is `reset(); initialize()` and `reset` replaces every index field by a fresh value:
      what the model writes as `reload s = { s with idx := analyze s.doc }` (nothing of the previous
      analysis survives) -/
  resetComplete : f.resetStale = []
  reloadIsResetThenInit : f.reloadSkeleton = ["s.reset()", "s.initialize()"]

theorem step_inSync (analyze : δ → ι) (s : St δ ι) (e : Ev δ) : InSync analyze (step analyze s e) := by
  cases e with
  | mutate f => intro hd; simp [step] at hd
  | reload => intro _; simp [step]

theorem in_sync (analyze : δ → ι) (s : St δ ι) (tr : List (Ev δ)) (h : InSync analyze s) :
    InSync analyze (run analyze s tr) := by
  induction tr generalizing s with
  | nil => exact h
  | cons e tr ih => exact ih (step analyze s e) (step_inSync analyze s e)

theorem phases_end_clean (analyze : δ → ι) (s : St δ ι) (phases : List (List (δ → δ)))
    (hs : s.dirty = false) :
    (run analyze s (phases.flatMap fun muts => phase muts true)).dirty = false := by
  induction phases generalizing s with
  | nil => simpa [run] using hs
  | cons muts rest ih =>
    simp only [List.flatMap_cons, run, List.foldl_append]
    apply ih
    simp [phase, step]

/-- C10: after a run in which every phase reloads, the index is the analysis of the final document -/
theorem index_is_fresh_analysis (analyze : δ → ι) (d : δ) (phases : List (List (δ → δ))) :
    let s0 : St δ ι := { doc := d, idx := analyze d, dirty := false }
    let s := run analyze s0 (phases.flatMap fun muts => phase muts true)
    s.idx = analyze s.doc := by
  intro s0 s
  have h0 : InSync analyze s0 := fun _ => rfl
  exact in_sync analyze s0 _ h0 (phases_end_clean analyze s0 phases rfl)

/-- the hypothesis matters: a phase that mutates without reloading leaves a stale index -/
example :
    let analyze : Nat → Nat := fun d => d
    let s0 : St Nat Nat := { doc := 0, idx := 0, dirty := false }
    (run analyze s0 (phase [fun d => d + 1] false)).idx ≠ analyze (run analyze s0 (phase [fun d => d + 1] false)).doc := by
  decide +kernel

/-- C10 on the phase model of Flatten itself (`Flatten.flattenLocal`, where each phase works on the
    index of the last `reload()` exactly as the code does): when the pipeline returns normally, the
    index held by the caller's `Spec` is the analysis of the document it returns — for every
    document, option set, external function and number of loop iterations.  The model is tied to
    flatten.go phase by phase by the `phases` correspondence stream.  (Behind it is
    `Proofs.FlattenPipeline.InSync`, not the `Trace.InSync` of the theorems above.) -/
theorem pipeline_in_sync (fc : Facts) (x : Flatten.Ext) (o : Flatten.Opts) (fuel : Nat) (s s' : Flatten.St)
    (h : Flatten.flattenLocal fc x o fuel s = .ok s') :
    s'.idx = Analyzer.analyze fc s'.doc :=
  Proofs.FlattenPipeline.pipeline_inSync fc x o fuel s s'
    ((Proofs.FlattenPipeline.flattenLocal_eq fc x o fuel s).symm.trans h)

/-- the same for the pipeline with the real import loop (multi-document bundles) -/
theorem pipeline_in_sync_multi (fc : Facts) (x : Flatten.Ext) (o : Flatten.Opts) (fuel : Nat) (s s' : Flatten.St)
    (h : Flatten.flatten fc x o fuel s = .ok s') :
    s'.idx = Analyzer.analyze fc s'.doc :=
  Proofs.FlattenPipeline.pipeline_inSync fc x o fuel s s'
    ((Proofs.FlattenPipeline.flatten_eq fc x o fuel s).symm.trans h)

end C10
