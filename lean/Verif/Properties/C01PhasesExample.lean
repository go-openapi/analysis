import Verif.Properties.C01Phases

/-!
# C01 — the hypotheses of the phase theorem can be met

`K` and `P` both refer to `N` under the absolute spelling `/r.json#/definitions/N`; the two steps of `normalizeRef`
rewrite them to `#/definitions/N`.  Every hypothesis of `C01.retarget_sequence_preserves_meaning` holds, with the hop
bound 2.
-/

namespace C01.PhasesExample
open J Replace Spec.Meaning Proofs.Bisim Proofs.Retarget Proofs.RetargetModel Proofs.RetargetFold Proofs.Move Proofs.MoveBase Proofs.UpdateComm

def absN : String := "/r.json#/definitions/N"

def d : J := .obj [("definitions", .obj [
  ("N", .obj [("type", .str "object")]),
  ("P", .obj [("$ref", .str absN)]),
  ("K", .obj [("$ref", .str absN)])])]

def dn : J := .obj [("definitions", .obj [
  ("N", .obj [("type", .str "object")]),
  ("P", .obj [("$ref", .str "#/definitions/N")]),
  ("K", .obj [("$ref", .str "#/definitions/N")])])]

def posN : Pos := ("", ["definitions", "N"])
def T : List (String × Pos) := [("#/definitions/N", posN), (absN, posN)]
def rest : Bundle := { docs := [], refs := [] }
def b : Bundle := bundleWith d T rest
def steps : List Step := [⟨["definitions", "K"], "#/definitions/N"⟩, ⟨["definitions", "P"], "#/definitions/N"⟩]

theorem applied : applySteps steps d = some dn := by rfl

theorem chaseN (k : Nat) : chase b (k + 1) posN = some posN :=
  chase_end ⟨.obj [("type", .str "object")], rfl, rfl⟩ k

theorem target_cases (doc s : String) (q : Pos) (h : b.target doc s = some q) : q = posN := by
  have hm : (s, q) ∈ T := target_mem h
  simp only [T, List.mem_cons, Prod.mk.injEq, List.mem_nil_iff, or_false] at hm
  exact hm.elim And.right And.right

theorem adequate : RSetting.AdequateOn GoodAll b 2 :=
  (RSetting.adequate_of_targets fun doc s q h => ⟨posN, target_cases doc s q h ▸ chaseN 0⟩).on _

/-- every hypothesis of the sequence theorem holds: `K` denotes the same tree before and after the two steps -/
theorem example_applies : ∀ n, unfold b 2 n ("", ["definitions", "K"]) = unfold (bundleWith dn T rest) 2 n ("", ["definitions", "K"]) := by
  intro n
  refine C01.retarget_sequence_preserves_meaning T rest 2 (by decide) steps d dn applied ?_ ?_ ?_ (by decide) adequate n _ ?_ ?_
  · intro doc s q h
    rw [target_cases doc s q h]
    exact ⟨Or.inr (allCanon_of_all (by decide)), by decide⟩
  · intro s hs
    simp only [steps, List.mem_cons, List.mem_nil_iff, or_false] at hs
    rcases hs with rfl | rfl <;>
      exact ⟨.obj [("$ref", .str absN)], posN, rfl, by decide, by decide, rfl, rfl, allCanon_of_all (by decide)⟩
  · refine List.pairwise_cons.2 ⟨?_, List.pairwise_cons.2 ⟨by simp, List.Pairwise.nil⟩⟩
    intro s hs
    simp only [List.mem_cons, List.mem_nil_iff, or_false] at hs
    subst hs
    exact ⟨by decide, by decide, by decide⟩
  · intro s hs
    simp only [steps, List.mem_cons, List.mem_nil_iff, or_false] at hs
    rcases hs with rfl | rfl <;> exact Or.inr ⟨allCanon_of_all (by decide), by decide⟩
  · exact Or.inr (allCanon_of_all (by decide))

end C01.PhasesExample
