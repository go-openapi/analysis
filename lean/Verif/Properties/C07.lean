import Verif.Proofs.SortRef
import Verif.Proofs.OrderIndep
import Verif.Proofs.NamesPerm

/-!
# C07 — the order-sensitive functions of Flatten are deterministic

`DepthFirst` and `TopmostFirst` return the same list for every order in which the keys of a Go map are
supplied; and every `for … range` over a map in the Flatten code (regenerated from the source, typed, on
every run) is in the table `discharged` below, with the reason why its iteration order cannot influence
the output.
-/

namespace C07
open SortRef

def discharged : List (String × String) := [
  ("GatherOperations:pathItem", "results collected then sorted by key (sort.Sort): gatherOperations_order_independent; NOT discharged when two derived keys are equal: known finding D10"),
  ("GatherOperations:specDoc.Operations()", "same"),
  ("Name:an.references.allRefs", "each iteration is a membership test followed by UpdateRef at a distinct analyzer key: updates at distinct keys commute (updateRef_commutes; the interleaved DeepestRef tests are not covered by a theorem)"),
  ("OpRefsByRef:oprefs", "re-indexing of a map by an injective key"),
  ("ReverseIndex:schemas", "grouping by normalised path; the Keys order of a group only feeds UpdateRef calls at distinct keys"),
  ("croak:f.Spec.references.allRefs", "logging only"),
  ("croak:f.flattenContext.newRefs", "logging only"),
  ("croak:reported", "logging only"),
  ("flattenAnonPointer:an.references.allRefs", "callers are collected, then used as a set"),
  ("flattenAnonPointer:refsToReplace", "deletes the planned keys that lie under the schema which has just been moved: the test looks at the key alone, a filter (stalePlans_order_independent)"),
  ("importExternalReferences:groupedRefs", "keys collected then sort.Strings"),
  ("importExternalReferences:opts.flattenContext.newRefs", "sampled only: the body inserts entries while ranging"),
  ("importNewRef:partialAnalyzer.references.allRefs", "UpdateRef at distinct keys of the imported schema: importRebase_order_independent"),
  ("namePointers:opts.Spec.references.allRefs", "collected into a map, then ordered by DepthFirst (total order, depthFirst_perm)"),
  ("namesForParam:operations", "names collected then sort.Strings in namesFromKey: namesFromKey_order_independent"),
  ("normalizeRef:opts.Spec.references.allRefs", "UpdateRef at distinct analyzer keys: normalizeRef_order_independent"),
  ("removeUnusedSinglePass:opts.Spec.references.schemas", "set difference (C06.singlePass_keeps_used): removalPass_order_independent"),
  ("removeUnusedSinglePass:opts.Swagger().Definitions", "set construction"),
  ("removeUnusedSinglePass:unused", "deletions of distinct keys commute"),
  ("stripOAIGen:opts.flattenContext.newRefs", "first loop: updateRefParents acts on each entry independently; second loop: the keys are collected, sorted in descending order, and the entries visited in that order (since the repair of the order-dependent failure: model Flatten.stripOrder)"),
  ("stripOAIGenForRef:opts.flattenContext.newRefs", "propagation: the parents of each other entry are mapped independently of the others"),
  ("uniqifyName:definitions", "existential test (C03.uniqify_fresh): uniqifyName_order_independent"),
  ("updateRefParents:allRefs", "parents later sorted by TopmostFirst (total order, topmostFirst_perm): sortedParents_order_independent")]

structure FactsOK (f : Facts) : Prop where
  ranges : ∀ r ∈ f.mapRanges, r ∈ discharged.map (·.1)

/-- dropping the planned pointers that moved with their holder (`flattenAnonPointer`, the loop over `refsToReplace`):
    whatever the order in which the map is visited, the same entries are left -/
theorem stalePlans_order_independent (moved key : String) (plans plans' : List (String × Flatten.PtrPlan))
    (hp : plans.Perm plans') :
    (plans.filter fun p => p.1 = key || !Str.hasPrefix (moved ++ "/") p.1).Perm
      (plans'.filter fun p => p.1 = key || !Str.hasPrefix (moved ++ "/") p.1) :=
  hp.filter _

/-- `DepthFirst` does not depend on the order in which the keys of the map are visited -/
theorem depthFirst_perm (ks ks' : List String) (hp : ks.Perm ks') (hn : ks.Nodup) :
    depthFirst ks = depthFirst ks' := by
  have _ := hn  -- not needed: the orders are antisymmetric on all strings, duplicates do no harm
  exact Proofs.SortRef.depthFirst_eq_of_perm hp

/-- `TopmostFirst` does not depend on the order of its input -/
theorem topmostFirst_perm (ks ks' : List String) (hp : ks.Perm ks') (hn : ks.Nodup) :
    topmostFirst ks = topmostFirst ks' := by
  have _ := hn  -- not needed: the orders are antisymmetric on all strings, duplicates do no harm
  exact Proofs.SortRef.mergeSort_topLe_perm hp

/-- `DepthFirst` returns its input keys (those that fall in one of the seven groups), each as often as it was
    given -/
theorem depthFirst_perm_of_input (ks : List String) (hn : ks.Nodup) :
    (depthFirst ks).Perm (ks.filter fun k => depthGroupOrder.contains (groupOf (keyParts k))) := by
  have _ := hn  -- not needed: `List.Perm` counts multiplicities
  exact Proofs.SortRef.depthFirst_perm_filter ks

/-- `GatherOperations` ranges over the map of maps `specDoc.Operations()`: whatever the order in which the
    operations are met (any permutation of them), the registered operations are the same — provided
    the derived keys `ToGoName(method + " " + path)` tell the operations apart.  That proviso is
    exactly what fails in the open finding D10 (`/a-b` and `/a_b` under the same method), where the Go
    code is indeed not deterministic. -/
theorem gatherOperations_order_independent (x : Flatten.Ext) {ops ops' : List (String × String × J)}
    (hp : ops.Perm ops') (oprefs : List Flatten.OpRef)
    (hm : ops.mapM (Proofs.GatherPerm.mkOpRef x) = .ok oprefs)
    (hinj : ∀ a ∈ oprefs, ∀ b ∈ oprefs, a.key = b.key → a = b) :
    Flatten.gatherFrom x ops' = Flatten.gatherFrom x ops := by
  obtain ⟨oprefs', hm', hperm⟩ := OutcomeM.mapM_perm _ hp oprefs hm
  have hs := List.mergeSort_eq_of_perm_on (fun a b : Flatten.OpRef => Flatten.strLe a.key b.key)
    (fun a b c => Proofs.NamesPerm.strLe_trans _ _ _) (fun a b => Proofs.NamesPerm.strLe_total _ _) hperm
    (fun a ha b hb h1 h2 => hinj a ha b hb (Proofs.NamesPerm.strLe_antisymm _ _ h1 h2))
  -- `gatherFrom` is `mapM` of the function that `mkOpRef` copies, then a pure function of the sorted list
  show (ops'.mapM (Proofs.GatherPerm.mkOpRef x) >>= _) = (ops.mapM (Proofs.GatherPerm.mkOpRef x) >>= _)
  rw [hm, hm']
  show (pure _ : Outcome _) = pure _
  rw [hs]

/-!
In the model a Go map is an association list and a `for … range` loop a fold over it; the list the model is
given stands for *one* iteration order.  The theorems below say that every permutation of that list gives
the same result.  The hypothesis `KeysApart` (the keys of the map designate different positions, also when
decimal tokens are read as numbers) is executable (`keysApartB`); the driver evaluates it on the analyzer's
reference index of every generated document and the evidence reports how often it held. -/

open Proofs.UpdateComm Proofs.OrderIndep Replace

/-- `replace.UpdateRef` at two different positions commutes: when one order succeeds, so does the other, and
    with the same document.  Also when one position lies inside the other (a `$ref` with siblings that hold
    `$ref`s): `UpdateRef` keeps the siblings (`C04.updateRef_keeps_siblings`). -/
theorem updateRef_commutes (d : J) (k1 k2 r1 r2 : String) (d' : J)
    (hd : PosDistinct (Replace.keyTokens k1) (Replace.keyTokens k2))
    (h : (Replace.updateRef d k1 r1 >>= fun d1 => Replace.updateRef d1 k2 r2) = .ok d') :
    (Replace.updateRef d k2 r2 >>= fun d2 => Replace.updateRef d2 k1 r1) = .ok d' := by
  simp only [OutcomeM.bind_eq_ok, updateRef_ok_iff] at h ⊢
  obtain ⟨d1, h1, h2⟩ := h
  exact updR_comm r1 r2 _ _ _ _ _ _ hd h1 h2

/-- `normalizeRef` ranges over `opts.Spec.references.allRefs`: every iteration order yields the same document -/
theorem normalizeRef_order_independent (x : Flatten.Ext) (o : Flatten.Opts) {refs refs' : List (String × String)}
    (hp : refs.Perm refs') (hk : keysApartB refs = true) (d d' : J)
    (h : normalizeFold x o refs d = .ok d') : normalizeFold x o refs' d = .ok d' := by
  refine updateRefs_perm .swagger (fun kv : String × String => keyTokens kv.1)
    (fun kv => Flatten.ask "mkRef" x.mkRef (Str.join ["#/definitions", Str.base kv.2])) _ ?_
    (hp.filter _) ((keysApartB_sound refs hk).filter _) d d' h
  intro d kv d'
  simp only [OutcomeM.bind_eq_ok, updateRef_ok_iff]

/-- `Flatten.normalizeRef` is `normalizeFold` over the analyzer's `allRefs`, followed by `reload()` -/
theorem normalizeRef_is_the_loop (fc : Facts) (x : Flatten.Ext) (o : Flatten.Opts) (s : Flatten.St) :
    Flatten.normalizeRef fc x o s = (do
      let d ← normalizeFold x o (Flatten.allRefs s.idx) s.doc
      pure (if ((Flatten.allRefs s.idx).filter fun kv => Str.hasPrefix (o.basePath ++ "#/definitions") kv.2).isEmpty
            then s else Flatten.reload fc { s with doc := d })) := rfl

/-- `importKnownRef` re-targets the keys of one group of the reverse index, which `ReverseIndex` collected in map
    order: every order yields the same document.  (`keysApartB` reads the keys only: hence the pairing with `""`.) -/
theorem reref_order_independent (ref : String) {keys keys' : List String} (hp : keys.Perm keys')
    (hk : keysApartB (keys.map fun k => (k, "")) = true) (d d' : J)
    (h : rerefFold ref keys d = .ok d') : rerefFold ref keys' d = .ok d' := by
  refine updateRefs_perm .swagger keyTokens (fun _ => .ok ref) _ ?_ hp
    (List.pairwise_map.1 (keysApartB_sound _ hk) : keys.Pairwise fun a b => KeysApart (a, "") (b, "")) d d' h
  intro d key d'
  simp [updateRef_ok_iff]

/-- `importNewRef` rebases the `$ref`s of the schema it imports, ranging over the `allRefs` map of a partial analyzer
    (`UpdateRef` on the schema itself): every iteration order yields the same schema.  (`rebaseStep g` is the loop body
    of `Flatten.importNewRef`: `Proofs.OrderIndep.importRebase_step_eq`.) -/
theorem importRebase_order_independent (g : String × String → Outcome String) {refs refs' : List (String × String)}
    (hp : refs.Perm refs') (hpw : refs.Pairwise SchemaKeysApart) (sch sch' : J)
    (h : refs.foldlM (rebaseStep g) sch = .ok sch') : refs'.foldlM (rebaseStep g) sch = .ok sch' :=
  updateRefs_perm .schemaPtr (fun kv : String × String => schemaKeyTokens kv.1) g _ (rebaseStep_ok g) hp hpw sch sch' h

/-- `uniqifyName` ranges over the definitions for its case-insensitive membership test: the order is irrelevant -/
theorem uniqifyName_order_independent (f : Facts) (x : Names.Ext) {defs defs' : List String} (hp : defs.Perm defs')
    (name : String) (fuel : Nat) :
    Names.uniqifyName f x defs name fuel = Names.uniqifyName f x defs' name fuel := by
  have hk : Names.knownFold x defs = Names.knownFold x defs' := funext fun _ => hp.any_eq
  have hx : Names.knownExact defs = Names.knownExact defs' := funext fun _ => hp.contains_eq
  simp only [Names.uniqifyName, hp.isEmpty_eq, hk, hx]

/-- `removeUnusedSinglePass` ranges over `references.schemas` to collect the used names: the pass depends on
    them as a set only (order and multiplicity of the schema references are irrelevant) -/
theorem removalPass_order_independent (f : Facts) (x : RemoveUnused.Ext) (d : J) {used' : List String}
    (h : ∀ n, n ∈ RemoveUnused.usedNames f x d ↔ n ∈ used') :
    RemoveUnused.singlePass f x d = singlePassWith used' d :=
  singlePassWith_congr h d

/-- `updateRefParents` ranges over `allRefs` and appends the keys it has not seen; `stripOAIGenForRef` then
    sorts them with `TopmostFirst`: the sorted parents do not depend on the iteration order -/
theorem sortedParents_order_independent {refs refs' : List (String × String)} (hp : refs.Perm refs')
    (r : Flatten.NewRef) :
    SortRef.topmostFirst (Flatten.updateRefParents refs r).parents =
      SortRef.topmostFirst (Flatten.updateRefParents refs' r).parents := by
  rw [updateRefParents_eq, updateRefParents_eq]
  split
  · rfl
  · exact Proofs.SortRef.mergeSort_topLe_perm (parents_perm r.path hp r.parents)

/-- `namesForParam` ranges over the operations map (keyed by the operation's `$ref`) and appends one candidate
    name per operation of the path; `namesFromKey` sorts the names: the names `InlineSchemaNamer.Name` tries
    for a key, and their order, do not depend on the iteration order of that map -/
theorem namesFromKey_order_independent (x : Flatten.Ext) (s : List String) (fl : Classify.Flags)
    {ops ops' : List (String × Flatten.OpRef)} (hp : ops.Perm ops') (hn : (ops.map (·.1)).Nodup)
    (names : List String) (h : Flatten.namesFromKey x s fl ops = .ok names) :
    Flatten.namesFromKey x s fl ops' = .ok names := by
  obtain ⟨_, h', rfl⟩ := Proofs.NamesPerm.namesFromKey_perm x s fl hp hn names h
  exact h'

/-- the second loop of `stripOAIGen` visits the created refs in descending key order:
    the visit order is the same for every order in which the map `newRefs` is enumerated -/
theorem stripOAIGen_visit_order_independent {s s' : Flatten.St} (hp : s.ctx.newRefs.Perm s'.ctx.newRefs) :
    Flatten.stripOrder s = Flatten.stripOrder s' :=
  Proofs.NamesPerm.sortDesc_perm (hp.map _)

/-- the hypothesis `KeysApart` of the theorems above is met by every reference map whose keys have pairwise
    different token paths that spell their numerals canonically (`"7"`, never `"07"`) — as the analyzer writes
    array indices; only property or definition *names* such as `07` next to `7` fall outside -/
theorem keysApart_of_canonical_tokens (l : List (String × String))
    (hd : l.Pairwise fun a b => Replace.keyTokens a.1 ≠ Replace.keyTokens b.1)
    (hc : ∀ a ∈ l, ∀ t ∈ Replace.keyTokens a.1, Proofs.MoveBase.CanonTok t) : l.Pairwise KeysApart :=
  hd.imp_of_mem fun ha hb hne => posDistinct_of_ne_canon _ _ hne (hc _ ha) (hc _ hb)

/-! non-vacuity: two keys one of which lies inside the other are apart, and the two orders of updating a `$ref`
    with a `$ref`-holding sibling agree on a concrete document -/

example : posDistinctB ["definitions", "A"] ["definitions", "A", "properties", "p"] = true := by decide

/-- `A = {$ref, properties: {p: {$ref}}}`: both `$ref`s updated, in either order, give the same document, and
    the sibling survives the outer update -/
def sibDoc : J := .obj [("definitions", .obj [("A", .obj [("$ref", .str "o#/definitions/X"),
  ("properties", .obj [("p", .obj [("$ref", .str "o#/definitions/X")])])])])]

def sibDocAfter : J := .obj [("definitions", .obj [("A", .obj [("$ref", .str "#/definitions/x"),
  ("properties", .obj [("p", .obj [("$ref", .str "#/definitions/x")])])])])]

example :
    (updR "#/definitions/x" .swagger sibDoc ["definitions", "A"]).bind
        (fun d => updR "#/definitions/x" .swagger d ["definitions", "A", "properties", "p"]) = some sibDocAfter ∧
    (updR "#/definitions/x" .swagger sibDoc ["definitions", "A", "properties", "p"]).bind
        (fun d => updR "#/definitions/x" .swagger d ["definitions", "A"]) = some sibDocAfter :=
  ⟨rfl, rfl⟩

end C07
