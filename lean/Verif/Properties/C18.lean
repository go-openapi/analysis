import Verif.Proofs.MixinIds

/-!
# C18 — Mixin keeps operation ids unique

`ids_unique_after_mixin` is about `Mixin.mixin`; the two other statements are about one added path item.
-/

namespace C18
open J Spec.Mixin

/-- `pathItemOps` collects the seven methods; `getOpIDs` / `mergePaths` skip empty ids -/
structure FactsOK (f : Facts) : Prop where
  methods : f.mixinMethods.Perm Doc.methods
  skipsEmpty : f.mixinSkipsEmptyIDs = true

/-- path keys of a document are distinct (it is a Go map) and so are the keys of every path item -/
def MapLike (d : J) : Prop :=
  ((Doc.pathItems d).map (·.1)).Nodup ∧ ∀ kv ∈ Doc.pathItems d, ∃ kvs, kv.2 = .obj kvs ∧ (kvs.map (·.1)).Nodup

/-- no id has the form `x ++ "Mixin" ++ digits` for another id `x` of the inputs -/
def NoMixinSuffixClash (docs : List J) : Prop :=
  ∀ x ∈ docs.flatMap opIds, ∀ y ∈ docs.flatMap opIds, mixinSuffixOf x y = false

/-- all non-empty operation ids of the merged document are pairwise distinct, under all seven
    methods, for every order of the entries of every object (iteration order) -/
theorem ids_unique_after_mixin (f : Facts) (h : FactsOK f) (p : J) (ms : List J) (r : J × List Mixin.Warn)
    (hp : p.isObj = true) (hr : Mixin.mixin f p ms = .ok r)
    (hml : ∀ d ∈ p :: ms, MapLike d)
    (hu : ∀ d ∈ p :: ms, (opIds d).Nodup)
    (hc : NoMixinSuffixClash (p :: ms)) :
    (opIds r.1).Nodup :=
  have _ := hml  -- not used: the proof goes through for association lists with repeated keys
  Proofs.Mixin.mixin_ids_nodup f h.methods h.skipsEmpty p ms r hp hr hu hc

/-- "an id is changed only if it collides", on the recorded ids: when none of the ids an added path item brings is
    already recorded and they are distinct among themselves, the renaming loop records them as they are
    (`renameIds` is that loop on the ids alone: `Proofs.Mixin.renameOps_spec`) -/
theorem renameIds_no_collision (idx : Nat) (origs : List String) :
    ∀ ids : List String, (∀ x ∈ origs, x ∉ ids) → origs.Nodup →
      Proofs.Mixin.renameIds idx ids origs = ids ++ origs := by
  induction origs with
  | nil => intro ids _ _; simp [Proofs.Mixin.renameIds_nil]
  | cons id origs ih =>
    intro ids h hn
    have hid : ids.contains id = false := by simpa using h id (by simp)
    rw [Proofs.Mixin.renameIds_cons, hid]
    simp only [Bool.false_eq_true, if_false]
    rw [ih (ids ++ [id]) ?_ (List.nodup_cons.1 hn).2]
    · simp
    · intro x hx hmem
      rcases List.mem_append.1 hmem with h1 | h1
      · exact h x (by simp [hx]) h1
      · have : x = id := by simpa using h1
        exact (List.nodup_cons.1 hn).1 (this ▸ hx)

/-- … and on the path item itself: `renameOps` (the loop of `mergePaths` over the operations of one added path item)
    leaves `pathItemIDs`, the list of the non-empty ids of a path item in method order, unchanged when the path
    item collides with nothing -/
theorem renameOps_keeps_ids_without_collision (f : Facts) (h : FactsOK f) (idx : Nat) (ids : List String) (pi : J)
    (hfresh : ∀ x ∈ Mixin.pathItemIDs f pi, x ∉ ids) (hn : (Mixin.pathItemIDs f pi).Nodup) :
    Mixin.pathItemIDs f (Mixin.renameOps f idx ids pi).1 = Mixin.pathItemIDs f pi := by
  obtain ⟨h1, h2⟩ := Proofs.Mixin.renameOps_spec f h.skipsEmpty (Proofs.Mixin.nodup_of_perm_methods h.methods) idx ids pi
  rw [h1, renameIds_no_collision idx _ ids hfresh hn] at h2
  exact (List.append_cancel_left h2).symm

end C18
