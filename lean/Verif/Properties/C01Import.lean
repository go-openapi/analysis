import Verif.Proofs.ImportMove

/-!
# C01 — the import move preserves the meaning of the API

What `importNewRef` / `importKnownRef` do to a bundle — copy a definition of another document into the root under a fresh
name, point the `$ref`s that designated it at the copy — stated as a *local* bisimulation on nodes
(`Proofs.ImportMove`): if positions related by `Rel` (a position of the domain with itself; `src ++ t` with `nd ++ t`)
hold nodes of the same shape that are `$ref`s together, whose `$ref`s designate related positions, then related positions
denote the same tree — at every unfolding depth and for every hop bound (the two chases take the same number of hops, so
no adequacy hypothesis is needed).  Covers the first round (the `$ref`s inside the copy still designate the other
document) and the later rounds (they are re-pointed to copies).  Not tied to the model function `Flatten.importNewRef`
yet (its `$ref` rebasing goes through external tables); the certificate checker validates imports per run.
-/

namespace C01
open J Spec.Meaning Proofs.ImportMove Proofs.Inline Proofs.Retarget

theorem import_preserves_meaning (S : MSetting) (hl : S.Local) (hops : Nat) :
    (∀ n p, S.Dom p → unfold S.b1 hops n p = unfold S.b2 hops n p) ∧
    (∀ n t, S.CDom t → unfold S.b1 hops n (ext S.src t) = unfold S.b2 hops n (ext S.nd t)) :=
  ⟨fun n p hd => MSetting.import_preserves hl hops n p p (Or.inl ⟨rfl, hd⟩),
   fun n t ht => MSetting.import_preserves hl hops n _ _ (Or.inr ⟨t, ht, rfl, rfl⟩)⟩

/-! ### non-vacuity: `H → aux.json#/definitions/X`, where `X` refers to itself -/

namespace ImportExample

def auxDoc : J := .obj [("definitions", .obj [("X", .obj [("type", .str "object"),
  ("properties", .obj [("n", .obj [("$ref", .str "#/definitions/X")])])])])]

def root1 : J := .obj [("definitions", .obj [("H", .obj [("$ref", .str "aux.json#/definitions/X")])])]

def root2 : J := .obj [("definitions", .obj [("H", .obj [("$ref", .str "#/definitions/x")]),
  ("x", .obj [("type", .str "object"),
    ("properties", .obj [("n", .obj [("$ref", .str "aux.json#/definitions/X")])])])])]

def srcPos : Pos := ("aux.json", ["definitions", "X"])
def ndPos : Pos := ("", ["definitions", "x"])
def hPos : Pos := ("", ["definitions", "H"])

def b1 : Bundle :=
  { docs := [("", root1), ("aux.json", auxDoc)],
    refs := [("", [("aux.json#/definitions/X", srcPos)]), ("aux.json", [("#/definitions/X", srcPos)])] }

def b2 : Bundle :=
  { docs := [("", root2), ("aux.json", auxDoc)],
    refs := [("", [("aux.json#/definitions/X", srcPos), ("#/definitions/x", ndPos)]), ("aux.json", [("#/definitions/X", srcPos)])] }

abbrev S : MSetting where
  b1 := b1
  b2 := b2
  src := srcPos
  nd := ndPos
  Dom := fun p => p.1 = "aux.json" ∨ p = hPos
  CDom := fun t => t = [] ∨ t = ["type"] ∨ t = ["properties"] ∨ t = ["properties", "n"]

theorem node_aux (p : Pos) (hp : p.1 = "aux.json") : b2.node p = b1.node p := by
  obtain ⟨pd, pp⟩ := p
  cases hp
  rfl

theorem target_aux (s : String) (q : Pos) (h : b1.target "aux.json" s = some q) : q = srcPos := by
  have : b1.target "aux.json" s = List.lookup s [("#/definitions/X", srcPos)] := rfl
  rw [this] at h
  simp only [List.lookup] at h
  split at h
  · cases h; rfl
  · cases h

theorem local_ok : S.Local where
  hid := by
    rintro p (hp | rfl)
    · -- a position of the auxiliary document: the same node, the same `$ref` table
      refine MSetting.nodeRel_same (node_aux p hp) (fun _ => hp ▸ rfl) fun s t ht => Or.inl ⟨rfl, Or.inl ?_⟩
      rw [target_aux s t (hp ▸ ht)]
      rfl
    · -- the holder `H`: it designated the remote definition, it now designates the copy
      exact ⟨rfl, by decide, fun _ => Or.inr ⟨[], Or.inl rfl, rfl, rfl⟩⟩
  hcopy := by
    rintro t (rfl | rfl | rfl | rfl)
    · exact ⟨rfl, by decide, fun h => absurd rfl h⟩
    · exact ⟨⟨rfl, rfl, rfl⟩, by decide, fun h => absurd rfl h⟩
    · exact ⟨rfl, by decide, fun h => absurd rfl h⟩
    · exact ⟨rfl, by decide, fun _ => Or.inl ⟨rfl, Or.inl rfl⟩⟩
  hdomC := by
    rintro x a (hp | rfl) hn hr
    · exact Proofs.Bisim.Kids.const fun _ => Or.inl hp
    · cases hn
      exact absurd hr (by decide)
  hcopyC := by
    rintro t a (rfl | rfl | rfl | rfl) hn hr <;> cases hn
    · exact Proofs.Bisim.Kids.obj (by decide)
    · exact Proofs.Bisim.Kids.scalar rfl
    · exact Proofs.Bisim.Kids.obj (by decide)
    · exact absurd hr (by decide)

/-- the holder `H` denotes the same tree before and after the import, at every depth and for every hop bound -/
theorem example_applies (hops n : Nat) : unfold b1 hops n hPos = unfold b2 hops n hPos :=
  (import_preserves_meaning S local_ok hops).1 n hPos (Or.inr rfl)

end ImportExample
end C01
