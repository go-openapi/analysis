import Verif.Proofs.UrlLemmas
import Verif.Properties.C12
import Verif.Model.Flatten
import Verif.Proofs.Outcome

/-!
# C04 — Flatten succeeds on well-formed input: the rewrite primitives accept every analyzer key

Flatten rewrites the document only through `internal/flatten/replace` (`UpdateRef`, `RewriteSchemaToRef`,
`UpdateRefWithSchema`), addressing schemas by the keys of the analyzer index (`getPointerFromKey`,
`getParentFromKey`).  For every document whose JSON objects have distinct keys, every schema key of the index

* is resolved by the walk of the replace package to that very schema,
* with one of the Go dynamic types the primitives have a case for (`Replace.isSchemaKind`), and
* `UpdateRef` and `UpdateRefWithSchema` return no error on it; `RewriteSchemaToRef` returns no error
  unless the schema is held by a `not` keyword (the Go `rewriteParentRef` has no case for a schema
  holder; the bundles the property quantifies over do not reach it).

The only other hypothesis is `PlainKey`.  What is *not* proved here: that every phase only ever uses keys of an index
that is in sync (C10's invariant) — between two reloads the phases work on a stale index, and the per-run checks
decide those cases.
-/

namespace C04
open J Spec.Index Replace

/-- the pointer holds no percent byte (the name alphabet excludes '%'), so that the URL-unescaping
    `getPointerFromKey` applies to a key (`url.PathUnescape`) leaves it alone -/
def PlainKey (toks : List String) : Prop := (37 : UInt8) ∉ (ptr toks).toUTF8.toList

instance (toks : List String) : Decidable (PlainKey toks) := inferInstanceAs (Decidable (_ ∉ _))

theorem keyTokens_key (toks : List String) (h : PlainKey toks) : keyTokens (key toks) = toks := by
  unfold keyTokens key
  have : String.ofList (("#" ++ ptr toks).toList.drop 1) = ptr toks := by
    simp [String.toList_append]
  rw [this, UrlLemmas.pathUnescape_plain _ h]
  exact Str.parse_ptr toks

/-- every schema position of the document is reached by the replace package's walk, with a Go type
    the primitives handle; the `not` holder is the only source of the kind `notPtr` -/
theorem keys_walk (d : J) (hn : C12.NodupKeys d) :
    ∀ p ∈ allSchemas d, ∃ k, walk .swagger d p.1 = some (p.2, k) ∧ isSchemaKind k = true ∧
      (k = .notPtr → p.1.getLast? = some "not") := by
  intro p hp
  obtain ⟨k, hk, hs⟩ := ReplaceKeys.kres_allSchemas hn p hp
  exact ⟨k, hk.1, hs.1, hs.2⟩

/-- at the key of an indexed schema the walk of the replace package finds that schema with a schema kind, and
    whatever is written there, the write goes through -/
theorem key_writable (d : J) (hn : C12.NodupKeys d) (p : Pos) (hp : p ∈ allSchemas d) (hk : PlainKey p.1) (v : J) :
    ∃ k d', walk .swagger d (keyTokens (key p.1)) = some (p.2, k) ∧ isSchemaKind k = true ∧
      (k = .notPtr → p.1.getLast? = some "not") ∧ setAt d (keyTokens (key p.1)) v = some d' := by
  obtain ⟨k, hw, hs, hnp⟩ := keys_walk d hn p hp
  obtain ⟨d', h⟩ := ReplaceKeys.setAt_of_get d p.1 p.2 v (ReplaceKeys.get_of_walk hw)
  rw [← keyTokens_key p.1 hk] at hw h
  exact ⟨k, d', hw, hs, hnp, h⟩

/-- `UpdateRef` succeeds on every schema key -/
theorem updateRef_succeeds (d : J) (hn : C12.NodupKeys d) (p : Pos) (hp : p ∈ allSchemas d)
    (hk : PlainKey p.1) (ref : String) : ∃ d', updateRef d (key p.1) ref = .ok d' := by
  obtain ⟨k, d', hw, hs, _, h⟩ := key_writable d hn p hp hk (p.2.set "$ref" (.str ref))
  exact ⟨d', updateRef_ok.2 ⟨_, k, hw, hs, h⟩⟩

/-- `UpdateRefWithSchema` succeeds on every schema key -/
theorem updateRefWithSchema_succeeds (d : J) (hn : C12.NodupKeys d) (p : Pos) (hp : p ∈ allSchemas d)
    (hk : PlainKey p.1) (sch : J) : ∃ d', updateRefWithSchema d (key p.1) sch = .ok d' := by
  obtain ⟨k, d', hw, hs, _, h⟩ := key_writable d hn p hp hk sch
  exact ⟨d', updateRefWithSchema_ok.2 ⟨_, k, hw, hs, h⟩⟩

/-- `RewriteSchemaToRef` succeeds on every schema key that is not held by a `not` keyword -/
theorem rewriteSchemaToRef_succeeds (d : J) (hn : C12.NodupKeys d) (p : Pos) (hp : p ∈ allSchemas d)
    (hk : PlainKey p.1) (hnot : p.1.getLast? ≠ some "not") (ref : String) :
    ∃ d', rewriteSchemaToRef d (key p.1) ref = .ok d' := by
  obtain ⟨k, d', hw, hs, hnp, h⟩ := key_writable d hn p hp hk (refNode ref)
  exact ⟨d', rewriteSchemaToRef_ok.2 ⟨_, k, hw, hs, fun e => hnot (hnp e), h⟩⟩

/-- the same, stated for the keys of the analyzer's schema index (C12: the index is the traversal) -/
theorem analyzer_keys_rewritable (f : Facts) (hf : C11.FactsOK f) (d : J) (hwf : C11.WF d) (hn : C12.NodupKeys d) :
    ∀ e ∈ Index.schemas (Analyzer.analyze f d), ∃ p ∈ allSchemas d, e.1 = key p.1 ∧
      (PlainKey p.1 → ∀ ref, (∃ d', updateRef d e.1 ref = .ok d') ∧
        (∀ sch, ∃ d', updateRefWithSchema d e.1 sch = .ok d') ∧
        (p.1.getLast? ≠ some "not" → ∃ d', rewriteSchemaToRef d e.1 ref = .ok d')) := by
  intro e he
  have hmem := (C12.schemas_exact f hf d hwf).mem_iff.1 he
  obtain ⟨p, hp, rfl⟩ := List.mem_map.1 hmem
  refine ⟨p, hp, rfl, ?_⟩
  intro hk ref
  exact ⟨updateRef_succeeds d hn p hp hk ref, fun sch => updateRefWithSchema_succeeds d hn p hp hk sch,
    fun hnot => rewriteSchemaToRef_succeeds d hn p hp hk hnot ref⟩

def exampleDoc : J := .obj [("definitions", .obj [
  ("a/b", .obj [("type", .str "object"),
    ("properties", .obj [("x y", .obj [("type", .str "string")])]),
    ("not", .obj [("type", .str "integer")])])])]

/-- the hypotheses are met by a concrete document: its schema under `properties` is found with the
    kind "schema value in a map" -/
example : walk .swagger exampleDoc ["definitions", "a/b", "properties", "x y"] =
    some (.obj [("type", .str "string")], .schemaVal) := by rfl

example : (allSchemas exampleDoc).map (·.1) =
    [["definitions", "a/b"], ["definitions", "a/b", "properties", "x y"], ["definitions", "a/b", "not"]] := by rfl

/-- `RewriteSchemaToRef` on a schema held by `not` is an error in the Go code (no case for a schema
    holder in `rewriteParentRef`), and so it is in the model: whatever the document, a key that walks
    to the kind `notPtr` is refused -/
theorem rewriteSchemaToRef_under_not (d : J) (key ref : String) (n : J)
    (h : walk .swagger d (keyTokens key) = some (n, .notPtr)) :
    rewriteSchemaToRef d key ref = .err "unhandled parent schema rewrite" := by
  unfold rewriteSchemaToRef
  simp only [h, if_true]

/-- … and such keys exist (`exampleDoc`, under `not`) -/
example : walk .swagger exampleDoc ["definitions", "a/b", "not"] = some (.obj [("type", .str "integer")], .notPtr) := by
  rfl

/-! ### `UpdateRef` keeps the keys below the schema it rewrites valid

The phases work on a stale index between two reloads: a key recorded for a position *below* a schema whose
`$ref` has just been rewritten must still resolve.  `UpdateRef` sets only the `$ref` member (/repo `076e7ce`), so it
does, for every document: -/

/-- after `UpdateRef` the schema at the key carries the new `$ref` -/
theorem updateRef_sets_ref (d : J) (key ref : String) (d' : J) (h : updateRef d key ref = .ok d') :
    ∃ node, Spec.Pointer.get d (keyTokens key) = some node ∧
      Spec.Pointer.get d' (keyTokens key) = some (node.set "$ref" (.str ref)) := by
  obtain ⟨node, _, hw, _, hs⟩ := updateRef_ok.1 h
  exact ⟨node, ReplaceKeys.get_of_walk hw, Proofs.SetAt.get_setAt_self hs⟩

/-- … and every sibling keyword of that `$ref`, with everything below it, is found unchanged under the same
    pointer (scenario `remote-ref-siblings`) -/
theorem updateRef_keeps_siblings (d : J) (key ref : String) (d' : J) (h : updateRef d key ref = .ok d')
    (t : String) (ht : t ≠ "$ref") (rest : List String) :
    Spec.Pointer.get d' (keyTokens key ++ t :: rest) = Spec.Pointer.get d (keyTokens key ++ t :: rest) :=
  Proofs.UpdateFrame.updateRef_keeps_siblings d key ref d' h t ht rest

/-! ### A pointer that moved with its holder is not visited at its old key

`namePointers` plans every anonymous pointer up front.  When `flattenAnonPointer` moves a schema to a new definition,
the pointers that schema holds have new keys, and it drops the planned keys under the moved schema (/repo `630de91`;
scenario `pointer-inside-moved`).  For every document, plan and set of callers: -/

theorem mem_setPlan {k : String} {v : Flatten.PtrPlan} {p : String × Flatten.PtrPlan}
    {ps : List (String × Flatten.PtrPlan)} (h : p ∈ Flatten.setPlan k v ps) : p = (k, v) ∨ p ∈ ps := by
  fun_induction Flatten.setPlan k v ps with
  | case1 => exact .inl (List.mem_singleton.1 h)
  | case2 v' rest => exact (List.mem_cons.1 h).imp_right (List.mem_cons_of_mem _)
  | case3 k' v' rest _ ih =>
    rcases List.mem_cons.1 h with h | h
    · exact .inr (h ▸ List.mem_cons_self)
    · exact (ih h).imp_right (List.mem_cons_of_mem _)

theorem forall_mem_setPlan {P : String × Flatten.PtrPlan → Prop} {k : String} {v : Flatten.PtrPlan}
    {ps : List (String × Flatten.PtrPlan)} (hk : P (k, v)) (h : ∀ p ∈ ps, P p) : ∀ p ∈ Flatten.setPlan k v ps, P p :=
  fun p hp => (mem_setPlan hp).elim (· ▸ hk) (h p)

/-- after `flattenAnonPointer`, either the plan is unchanged (nothing was moved) or no planned key other than the one
    being visited lies under the place the moved schema has left -/
theorem moved_pointers_leave_the_plan (fc : Facts) (x : Flatten.Ext) (o : Flatten.Opts) (ops : List (String × Flatten.OpRef))
    (st : Flatten.St) (plans : List (String × Flatten.PtrPlan)) (key : String) (v : Flatten.PtrPlan)
    (r : Flatten.St × List (String × Flatten.PtrPlan))
    (h : Flatten.flattenAnonPointer fc x o ops st plans key v = .ok r) :
    r.2 = plans ∨ ∀ p ∈ r.2, p.1 = key ∨ Str.hasPrefix (Flatten.unescOrEmpty v.ref ++ "/") p.1 = false := by
  revert r
  unfold Flatten.flattenAnonPointer
  -- three exits: no caller (the plan as it is), naming (the only one that changes the plan: `?_`), expansion in
  -- place (the plan as it is)
  refine OutcomeM.Post.bind fun schema _ => .bind fun fl _ => .bind fun callers _ => .ite (fun _ => .pure (.inl rfl)) fun _ =>
    .ite (fun _ => .bind fun st' _ => .pure (.inr ?_)) fun _ => .bind fun d _ => .pure (.inl rfl)
  -- the naming branch: the filter leaves no key under the old place, and the fold over the callers adds none
  refine List.foldlRecOn (motive := fun ps : List (String × Flatten.PtrPlan) =>
    ∀ p ∈ ps, p.1 = key ∨ Str.hasPrefix (Flatten.unescOrEmpty v.ref ++ "/") p.1 = false) callers _ ?_ fun ps h c _ => ?_
  · intro p hp
    simpa using (List.mem_filter.1 hp).2
  · split
    · exact h  -- caller = key
    · split
      · exact fun p hp => h p (List.mem_filter.1 hp).1  -- caller under the moved place: filtered out
      · -- caller elsewhere (`hnp`): `setPlan` adds or rewrites its entry
        rename_i hnp
        have hc : c = key ∨ Str.hasPrefix (Flatten.unescOrEmpty v.ref ++ "/") c = false := .inr (by simpa using hnp)
        split
        · exact forall_mem_setPlan hc h
        · exact forall_mem_setPlan hc h

theorem namePointersLoop_last_pass (fc : Facts) (x : Flatten.Ext) (o : Flatten.Opts) : ∀ (fuel : Nat) (s s' : Flatten.St),
    Flatten.namePointersLoop fc x o fuel s = .ok s' → ∃ s0, Flatten.namePointersPass fc x o s0 = .ok (s', false)
  | 0, _, _, h => nomatch h
  | n + 1, s, s', h => by
    unfold Flatten.namePointersLoop at h
    obtain ⟨⟨s1, rp⟩, h1, h⟩ := OutcomeM.bind_eq_ok.1 h
    cases rp with
    | true => exact namePointersLoop_last_pass fc x o n _ _ h
    | false => exact ⟨s, Outcome.ok.inj h ▸ h1⟩

/-- `namePointers` returns the result of a pass in which every planned key was still there when its turn came: a pass
    that had to skip a moved pointer is always followed by another one -/
theorem namePointers_ends_with_complete_pass (fc : Facts) (x : Flatten.Ext) (o : Flatten.Opts) (s s' : Flatten.St)
    (h : Flatten.namePointers fc x o s = .ok s') :
    ∃ s0, Flatten.namePointersPass fc x o s0 = .ok (s', false) :=
  namePointersLoop_last_pass fc x o _ s s' h

/-- the conclusion says something: a plan that still holds a key under the moved schema does not meet it, a plan with
    the visited key and keys elsewhere does -/
example (pl : Flatten.PtrPlan) :
    (∀ p ∈ [("k", pl), ("n/x", pl)], p.1 = "k" ∨ Str.hasPrefix ("m" ++ "/") p.1 = false) ∧
    ¬ (∀ p ∈ [("k", pl), ("m/x", pl)], p.1 = "k" ∨ Str.hasPrefix ("m" ++ "/") p.1 = false) := by
  constructor
  · intro p hp
    simp only [List.mem_cons, List.not_mem_nil, or_false] at hp
    rcases hp with hp | hp <;> subst hp
    · exact Or.inl rfl
    · exact Or.inr (show Str.hasPrefix ("m" ++ "/") "n/x" = false by decide)
  · intro h
    rcases h ("m/x", pl) (by simp) with h | h
    · exact absurd (show "m/x" = "k" from h) (by decide)
    · exact absurd (show Str.hasPrefix ("m" ++ "/") "m/x" = false from h) (by decide)

end C04
