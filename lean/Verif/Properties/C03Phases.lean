import Verif.Proofs.FlattenPhases

/-!
# C03 — the phases that create definitions only append fresh names (model of the phases)

For the phase model of Flatten (`Verif/Model/Flatten.lean`, tied to flatten.go phase by phase by the
`phases` correspondence stream): `nameInlinedSchemas`, `namePointers` and the import loop never drop or overwrite a
definition, and every definition they add carries a name that differs — up to letter case, as
`strings.EqualFold` sees it — from every definition present when it is added.  For all documents,
names, option sets and external functions.
-/

namespace C03
open Flatten Proofs.FlattenNames Proofs.FlattenPhases

/-- the three clauses, for any run of writes that creates definitions only by `Save` -/
theorem writes_append_fresh (fc : Facts) (hf : FactsOK fc) (x : Ext) {d d' : J} (h : Writes (Saves fc x) d d') :
    Flatten.defNames d <+: Flatten.defNames d' ∧
    (∀ n ∈ (Flatten.defNames d').drop (Flatten.defNames d).length,
      ∀ k ∈ Flatten.defNames d, foldOf x k ≠ foldOf x n) ∧
    FreshExt (foldOf x) (Flatten.defNames d) (Flatten.defNames d') :=
  have hx := h.freshExt hf
  ⟨hx.prefix, hx.added_fresh, hx⟩

/-- full flattening, naming phase -/
theorem nameInlinedSchemas_appends_fresh (fc : Facts) (hf : FactsOK fc) (x : Ext) (o : Opts) (s s' : St)
    (h : nameInlinedSchemas fc x o s = .ok s') :
    -- the definitions that existed are still there, first and in the same order
    Flatten.defNames s.doc <+: Flatten.defNames s'.doc ∧
    -- each added name is fresh, up to case, with respect to every pre-existing name
    (∀ n ∈ (Flatten.defNames s'.doc).drop (Flatten.defNames s.doc).length,
      ∀ k ∈ Flatten.defNames s.doc, foldOf x k ≠ foldOf x n) ∧
    -- and with respect to the names added before it
    FreshExt (foldOf x) (Flatten.defNames s.doc) (Flatten.defNames s'.doc) :=
  writes_append_fresh fc hf x (nameInlinedSchemas_writes fc x o s s' h)

/-- Minimal and full flattening, pointer phase -/
theorem namePointers_appends_fresh (fc : Facts) (hf : FactsOK fc) (x : Ext) (o : Opts) (s s' : St)
    (h : namePointers fc x o s = .ok s') :
    Flatten.defNames s.doc <+: Flatten.defNames s'.doc ∧
    (∀ n ∈ (Flatten.defNames s'.doc).drop (Flatten.defNames s.doc).length,
      ∀ k ∈ Flatten.defNames s.doc, foldOf x k ≠ foldOf x n) ∧
    FreshExt (foldOf x) (Flatten.defNames s.doc) (Flatten.defNames s'.doc) :=
  writes_append_fresh fc hf x (namePointers_writes fc x o s s' h)

/-- import phase (definitions brought in from auxiliary documents, renamed `…OAIGen` on conflict) -/
theorem importReferences_appends_fresh (fc : Facts) (hf : FactsOK fc) (x : Ext) (o : Opts) (fuel : Nat) (s s' : St)
    (h : importReferences fc x o fuel s = .ok s') :
    Flatten.defNames s.doc <+: Flatten.defNames s'.doc ∧
    (∀ n ∈ (Flatten.defNames s'.doc).drop (Flatten.defNames s.doc).length,
      ∀ k ∈ Flatten.defNames s.doc, foldOf x k ≠ foldOf x n) ∧
    FreshExt (foldOf x) (Flatten.defNames s.doc) (Flatten.defNames s'.doc) :=
  writes_append_fresh fc hf x (importReferences_writes fc x o fuel s s' h)

/-- non-vacuity of `FreshExt`: `["pet"]` extended by `petOwner` (fresh) — and not by `PET` -/
example : FreshExt Str.toLowerAscii ["pet"] ["pet", "petOwner"] :=
  FreshExt.snoc (l' := ["pet"]) "petOwner" (FreshExt.refl _) (by decide +kernel)

example : ¬ (∀ k ∈ ["pet"], Str.toLowerAscii k ≠ Str.toLowerAscii "PET") := by decide +kernel

end C03
