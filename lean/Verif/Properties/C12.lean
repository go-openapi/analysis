import Verif.Properties.C11
import Verif.Proofs.PointerOnce
import Verif.Proofs.ReplaceKeys

/-!
# C12 — every schema is indexed under a JSON pointer that resolves to it

After namespace `C12`: `C13.view_keys_sublist` and the `…_keys_distinct` theorems of C11 and C13, which rest on it and on
`C12.keys_distinct`.
-/

namespace C12
open J Spec.Index

/-- the schema entries of the analyzer's log are, with multiplicity, those of the schemas `allSchemas` lists
    (definitions, nested, inline), each with name, top-level flag and allOf flag -/
theorem schemas_exact (f : Facts) (hf : C11.FactsOK f) (d : J) (hwf : C11.WF d) :
    (Index.schemas (Analyzer.analyze f d)).Perm ((allSchemas d).map schemaEntry) := by
  rw [← IndexProof.schemas_specLog]
  exact IndexProof.view_perm (IndexProof.analyze_perm_specLog f hf.methods hf.defaultHeaderEnums d hwf.toProof) _
    fun e he => by cases e <;> first | rfl | cases he

-- `hpk` is part of the statements below but no proof uses it: `allSchemas` reads `paths` through `Doc.pathItems`,
-- which filters by `isPathKey`
set_option linter.unusedVariables false in
/-- the key of every indexed schema is a pointer that parses back to its token path and resolves,
    against the document, to that very schema -/
theorem resolves (d : J) (hn : NodupKeys d) (hpk : ∀ kv ∈ d.getObj "paths", Doc.isPathKey kv.1 = true) :
    ∀ p ∈ allSchemas d, Spec.Pointer.parse (ptr p.1) = p.1 ∧ Spec.Pointer.get d p.1 = some p.2 :=
  PointerProof.resolves NodupKeys (fun _ => NodupKeys.obj_inv) (fun _ => NodupKeys.arr_inv) hn

set_option linter.unusedVariables false in
/-- each schema is listed exactly once: the token paths are pairwise distinct -/
theorem once (d : J) (hn : NodupKeys d) (hpk : ∀ kv ∈ d.getObj "paths", Doc.isPathKey kv.1 = true) :
    ((allSchemas d).map fun p => p.1).Nodup := by
  refine ((PointerProof.allSchemas_perm d).map _).nodup_iff.2
    (PointerProof.Under.blocks (base := []) (key := (·.1)) (by simp [PointerProof.docSections]) ?_).2
  simp only [PointerProof.docSections, List.forall_mem_cons, List.not_mem_nil, false_imp_iff, implies_true, and_true]
  exact ⟨PointerProof.under_section hn "paths" List.filter_sublist PointerProof.under_pathItemSchemas,
    PointerProof.under_section hn "parameters" (.refl _) fun _ h =>
      ((PointerProof.under_schemaOf _ h).mono (List.prefix_append _ _)).ite,
    PointerProof.under_section hn "responses" (.refl _) fun _ h =>
      (PointerProof.under_schemaOf _ h).mono (List.prefix_append _ _),
    PointerProof.under_section hn "definitions" (.refl _) fun _ h => PointerProof.under_schemasAt _ _ h⟩

/-- a key determines its token path: the pointer parses back -/
theorem key_injective {a b : List String} (h : key a = key b) : a = b := by
  rw [← Str.parse_ptr a, ← Str.parse_ptr b, (String.append_right_inj "#").1 h]

/-- the *keys* under which the analyzer files the indexed schemas are pairwise distinct (the strings, not only the
    token paths of `once`), whatever the names: `#/definitions/a~1properties~1b` and `#/definitions/a/properties/b`
    differ.  A memo keyed by the unescaped concatenation would not have this (seeded change `b8-C12-schema-key-memo`). -/
theorem keys_distinct (d : J) (hn : NodupKeys d) (hpk : ∀ kv ∈ d.getObj "paths", Doc.isPathKey kv.1 = true) :
    ((allSchemas d).map fun p => key p.1).Nodup := by
  have := (once d hn hpk).map_inj (f := key) fun _ _ => key_injective
  rwa [List.map_map] at this

/-- in the analyzer's own insertion log no schema key is written twice, so the Go map assignment of `analyzeSchema`
    never overwrites an entry (the step to `Index.mapOf` is not stated) -/
theorem indexed_keys_distinct (f : Facts) (hf : C11.FactsOK f) (d : J) (hwf : C11.WF d) (hn : NodupKeys d)
    (hpk : ∀ kv ∈ d.getObj "paths", Doc.isPathKey kv.1 = true) :
    ((Index.schemas (Analyzer.analyze f d)).map (·.1)).Nodup := by
  have hp := (schemas_exact f hf d hwf).map (·.1)
  refine hp.nodup_iff.2 ?_
  have := keys_distinct d hn hpk
  simpa [schemaEntry, Function.comp_def] using this

/-- the log holds as many schema entries as `allSchemas` lists schemas -/
theorem indexed_count (f : Facts) (hf : C11.FactsOK f) (d : J) (hwf : C11.WF d) :
    (Index.schemas (Analyzer.analyze f d)).length = (allSchemas d).length := by
  simpa using (schemas_exact f hf d hwf).length_eq

/-- top-level exactly for the entries of the definitions section -/
theorem toplevel_iff (d : J) : ∀ p ∈ allSchemas d, isTopLevel p.1 = true ↔ ∃ n, p.1 = ["definitions", n] := by
  intro p _
  unfold isTopLevel
  split <;> simp_all

end C12

namespace C13
open J Spec.Index

theorem view_keys_sublist (g : Pos → Option (String × J)) (hg : ∀ p e, g p = some e → e.1 = key p.1)
    (ps : List Pos) : ((ps.filterMap g).map (·.1)).Sublist (ps.map fun p => key p.1) := by
  induction ps with
  | nil => simp
  | cons p ps ih =>
    simp only [List.filterMap_cons, List.map_cons]
    cases h : g p with
    | none => exact ih.cons _
    | some e => simp only [List.map_cons]; rw [hg p e h]; exact ih.cons_cons _

end C13

namespace C11
open J Spec.Index

/-- in a document with distinct object keys, no two schema `$ref`s of `refs_exact`'s right-hand side are filed under
    the same key: nothing is overwritten when the Go map `references.schemas` is filled (the step to `Index.mapOf` is
    not stated) -/
theorem schema_ref_keys_distinct (d : J) (hn : C12.NodupKeys d)
    (hpk : ∀ kv ∈ d.getObj "paths", Doc.isPathKey kv.1 = true) :
    ((refsOf (allSchemas d)).map (·.1)).Nodup := by
  refine (C13.view_keys_sublist _ ?_ _).nodup (C12.keys_distinct d hn hpk)
  intro p e h
  split at h <;> cases h
  rfl

end C11

namespace C13
open J Spec.Index

/-- the same for the schema category of the pattern index: in a document with distinct object keys no two schema
    patterns are filed under one key -/
theorem schema_pattern_keys_distinct (d : J) (hn : C12.NodupKeys d)
    (hpk : ∀ kv ∈ d.getObj "paths", Doc.isPathKey kv.1 = true) :
    ((patternsOf (allSchemas d)).map (·.1)).Nodup := by
  refine (view_keys_sublist _ ?_ _).nodup (C12.keys_distinct d hn hpk)
  intro p e h
  split at h <;> cases h
  rfl

/-- … and the same for the enum index -/
theorem schema_enum_keys_distinct (d : J) (hn : C12.NodupKeys d)
    (hpk : ∀ kv ∈ d.getObj "paths", Doc.isPathKey kv.1 = true) :
    ((enumsOf (allSchemas d)).map (·.1)).Nodup := by
  refine (view_keys_sublist _ ?_ _).nodup (C12.keys_distinct d hn hpk)
  intro p e h
  split at h <;> cases h
  rfl

end C13
