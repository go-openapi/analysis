import Verif.Proofs.FlattenNF

/-!
# C08 — Flatten is idempotent (phase model: identity on normal forms)

`Flatten.isNF fc x o d` is an executable predicate: no `$ref` carries the root's absolute path, every
schema `$ref` is local, (full mode) no complex schema is inline, every `$ref` is
`#/definitions/<name>` of something present, (RemoveUnused) the shared sections are absent and every
definition is referred to.  The driver evaluates it on every output of the implementation (clause
`not-normal-form` of the C08 check).  The theorem: on such a document the whole pipeline after
`expand` is the identity — for every document and option set, and every external-function table that answers
for the operations of the document (`hops`).  Together: a second Flatten of an output changes nothing.
What is *not* proved: that phase 1 (`spec.ExpandSpec`, a library call) is the identity on outputs — they contain no parameter / response / path-item
`$ref`; the `phases` stream and the byte comparison of the second run cover it per run.
-/

namespace C08
open Flatten

/-- on a document in normal form, starting from a fresh analysis and an empty flatten context, the
    pipeline returns exactly the state it started from: same document, same index, no bookkeeping -/
theorem identity_on_normal_forms (fc : Facts) (x : Ext) (o : Opts) (fuel : Nat) (d : J)
    (ops : List (String × OpRef)) (hops : opRefsByRef x (initial fc d).idx = .ok ops)
    (h : isNF fc x o d = true) :
    flattenLocal fc x o (fuel + 1) (initial fc d) = .ok (initial fc d) :=
  (Proofs.FlattenPipeline.flattenLocal_eq fc x o _ _).trans
    (Proofs.FlattenNF.pipeline_nf fc x o (Proofs.FlattenNF.importReferencesLocal_nf fc) fuel d ops hops h)

/-- the same for the pipeline with the real import loop: a normal form has only local schema `$ref`s,
    so a round of `importExternalReferences` finds nothing and the loop stops -/
theorem identity_on_normal_forms_multi (fc : Facts) (x : Ext) (o : Opts) (fuel : Nat) (d : J)
    (ops : List (String × OpRef)) (hops : opRefsByRef x (initial fc d).idx = .ok ops)
    (h : isNF fc x o d = true) :
    flatten fc x o (fuel + 1) (initial fc d) = .ok (initial fc d) :=
  (Proofs.FlattenPipeline.flatten_eq fc x o _ _).trans
    (Proofs.FlattenNF.pipeline_nf fc x o (Proofs.FlattenNF.importReferences_nf fc x o fuel) fuel d ops hops h)

theorem document_unchanged (fc : Facts) (x : Ext) (o : Opts) (fuel : Nat) (d : J)
    (ops : List (String × OpRef)) (hops : opRefsByRef x (initial fc d).idx = .ok ops)
    (h : isNF fc x o d = true) (s' : St) (hs : flattenLocal fc x o (fuel + 1) (initial fc d) = .ok s') :
    s'.doc = d := by
  rw [identity_on_normal_forms fc x o fuel d ops hops h] at hs
  cases hs
  rfl

/-- five of the seven phases separately (what `NF → phase = id` means phase by phase) -/
theorem phases_idle (fc : Facts) (x : Ext) (o : Opts) (s : St) (ops : List (String × OpRef))
    (hops : opRefsByRef x s.idx = .ok ops) (hi : s.idx = Analyzer.analyze fc s.doc) (hc : s.ctx.newRefs = []) :
    (nfNormalize o s = true → normalizeRef fc x o s = .ok s) ∧
    (nfNaming fc x s = true → nameInlinedSchemas fc x o s = .ok s) ∧
    (nfPointers x s = true → namePointers fc x o s = .ok s) ∧
    (stripOAIGen fc x s = .ok (s, false)) ∧
    (nfUnused fc x s.doc = true → Flatten.removeUnused fc x s = .ok s) :=
  ⟨Proofs.FlattenNF.normalizeRef_nf fc x o s,
   Proofs.FlattenNF.nameInlinedSchemas_nf fc x o s ops hops hi hc,
   Proofs.FlattenNF.namePointers_nf fc x o s ops hops hi hc,
   Proofs.FlattenNF.stripOAIGen_nf fc x s hi hc,
   Proofs.FlattenNF.removeUnused_nf fc x s hi⟩

/-- the hypothesis is not vacuous and not trivial: an empty document is in normal form … -/
example : isNF Facts.reference
    { mkRef := fun _ => none, jsonName := fun _ => none, goName := fun _ => none, fold := fun _ => none,
      refTokens := fun _ => none, knownFormat := fun _ => false, statusText := fun _ => none }
    { minimal := true, removeUnused := true } (.obj []) = true := by decide +kernel

/-- … so is a document whose only `$ref` designates its only definition, and it stops being one when
    the definition is missing -/
def exampleExt : Ext :=
  { mkRef := fun _ => none, jsonName := fun _ => none, goName := fun _ => none, fold := fun _ => none,
    refTokens := fun r => if r = "#/definitions/a" then some ["definitions", "a"] else none,
    knownFormat := fun _ => false, statusText := fun _ => none }

def exampleDoc (withDef : Bool) : J := .obj [
  ("paths", .obj [("/p", .obj [("get", .obj [("responses", .obj [("200", .obj [
    ("description", .str "ok"), ("schema", .obj [("$ref", .str "#/definitions/a")])])])])])]),
  ("definitions", .obj (if withDef then [("a", .obj [("type", .str "string")])] else []))]

example : isNF Facts.reference exampleExt { minimal := true, removeUnused := true, basePath := "/tmp/root.json" } (exampleDoc true) = true := by decide +kernel
example : isNF Facts.reference exampleExt { minimal := true, removeUnused := true, basePath := "/tmp/root.json" } (exampleDoc false) = false := by decide +kernel

end C08
