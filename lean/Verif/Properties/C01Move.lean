import Verif.Proofs.NameRun

/-!
# C01 — the naming move of Flatten preserves the meaning of the API (proved for all documents)

The rewrite at the heart of full flattening (`InlineSchemaNamer.Name`): an inline schema found at a
JSON pointer is saved as a new definition and a `$ref` to it is left in its place.
`Proofs.Move.Setting` spells the situation out; the theorem says that every position of the bundle
other than the root object, the `definitions` map itself and the inside of the moved schema
denotes the same possibly infinite tree as before, and that the positions inside the moved schema
denote what the corresponding positions under the new definition denote — at every unfolding depth.

Hypotheses (each is forced by the proof; the generator's bundles satisfy them):
* the new name is not a definition yet and the `$ref` string left behind is used nowhere in the root
  document (otherwise a dangling `$ref` would start to resolve);
* no `$ref` of the bundle designates the root, the definitions map, the inside of the new definition
  or a position *strictly inside* the moved schema (`TargetsOK`; the namer re-targets the `$ref`s that
  designate the moved schema itself, and the generated bundles (class W, DESIGN §6) have no pointer below a nested
  inline schema);
* the moved schema is not itself a `$ref` (the namer skips those);
* object keys and array indices are canonical as tokens ("7", not "007": `Spec.Pointer.get` reads
  both as the same index);
* the hop bound is not what makes a `$ref` chain of the original bundle fail (`Stable`); the rewritten
  side gets one more hop, for the `$ref` left behind.
-/

namespace C01
open J Spec.Meaning Proofs.Move Proofs.MoveBase Replace

theorem naming_move_preserves_meaning (S : Setting) (ht : S.TargetsOK) (hr : S.r ≠ "") (hops : Nat)
    (hst : Setting.Stable S.b1 hops) :
    -- positions of auxiliary documents and allowed positions of the root keep their meaning
    (∀ n (p : Pos), (p.1 ≠ "" ∨ (p.1 = "" ∧ Allowed S.toks S.n p.2)) →
      unfold S.b1 hops n p = unfold S.b2 (hops + 1) n p) ∧
    -- what was inside the moved schema is now found under the new definition
    (∀ n (t : List String), AllCanon t → (∀ k t', t = k :: t' → k ≠ marker) →
      unfold S.b1 hops n ("", S.toks ++ t) = unfold S.b2 (hops + 1) n ("", defn S.n ++ t)) := by
  refine ⟨fun n p hp => S.move_preserves ht hr hops hst n p p ?_,
    fun n t hc hm => S.move_preserves ht hr hops hst n _ _ (Or.inr (Or.inr ⟨t, hc, hm, rfl, rfl⟩))⟩
  obtain ⟨pd, pp⟩ := p
  rcases hp with h | ⟨rfl, h2⟩
  · exact Or.inl ⟨h, rfl⟩
  · exact Or.inr (Or.inl ⟨pp, h2, rfl, rfl⟩)

/-- One iteration of `Name` in the phase model (`Flatten.nameWith`: unique name, `RewriteSchemaToRef`, save the clone,
    re-target the dependents, book-keeping), run on the schema of a setting, under the name and `$ref` string of that setting, in a document in which no `$ref`
    depends on the place being named (`NoDependents`: no anonymous pointer leads to it — the common case of full
    flattening), returns exactly the document `S.d2` of the move; hence it preserves the meaning of every allowed
    position and moves the meaning of the inside of the schema under the new definition.  The case with dependents is
    `nameWith_with_dependents_preserves_meaning`. -/
theorem nameWith_preserves_meaning (S : Setting) (fc : Facts) (x : Flatten.Ext) (o : Flatten.Opts) (st st' : Flatten.St)
    (key : String) (parts : List String) (name : String)
    (h : Flatten.nameWith fc x o st key (.obj S.sch) parts name = .ok st')
    (hdoc : st.doc = .obj S.kvs) (hkey : Replace.keyTokens key = S.toks)
    (hloc : S.loc = .str (Flatten.genLocation parts))
    (hname : ∀ nr, Flatten.getNR key st'.ctx.newRefs = some nr →
      nr.newName = S.n ∧ nr.path = Str.join ["#/definitions", S.n])
    (href : x.mkRef (Str.join ["#/definitions", S.n]) = some S.r)
    (hnodep : Proofs.MoveModel.NoDependents fc x key (Str.join ["#/definitions", S.n]) S.d2)
    (ht : S.TargetsOK) (hr : S.r ≠ "") (hops : Nat) (hst : Setting.Stable S.b1 hops) :
    st'.doc = S.d2 ∧
    (∀ n (p : Pos), (p.1 ≠ "" ∨ (p.1 = "" ∧ Allowed S.toks S.n p.2)) →
      unfold S.b1 hops n p = unfold S.b2 (hops + 1) n p) ∧
    (∀ n (t : List String), AllCanon t → (∀ k t', t = k :: t' → k ≠ marker) →
      unfold S.b1 hops n ("", S.toks ++ t) = unfold S.b2 (hops + 1) n ("", defn S.n ++ t)) :=
  ⟨Outcome.ok.inj ((Proofs.NameRun.nameWith_decompose S fc x o st st' key parts name h hdoc hkey hloc hname href).symm.trans
      (Proofs.NameRun.depLoop_idle fc x key _ S.r S.d2 hnodep)),
    naming_move_preserves_meaning S ht hr hops hst⟩

/-- Re-targeting a `$ref` along its own chain.  `Name` (and the `TopLevel` branch of
    `namePointers`) call `UpdateRef(k, #/definitions/newName)` on `$ref`s whose value leads, through anonymous pointers,
    to the place that now holds `$ref: #/definitions/newName`.  For every document `d`, key and new `$ref` string `v'`:
    if the position `q'` that `v'` designates lies on the chain of `$ref`s that starts at the old target `q0`
    (`Reaches`), then every position of the bundle denotes the same tree before and after `Replace.updateRef d key v'`
    (positions of the root spelled canonically and not inside the `$ref` member itself; all positions of auxiliary
    documents).  Hypotheses: object keys canonical as tokens, no `$ref` of the bundle designates a position inside the
    rewritten `$ref` member, and the hop bound is adequate (`Adequate`: every chain that ends at all ends within `hops`).
    Non-vacuity: `Properties/C01RetargetExample.lean` meets, on the chain `K → P → N`, every hypothesis of the token-path
    forms `updR_retarget_preserves` / `setAt_inline_preserves`, from which this theorem and `inline_preserves_meaning`
    follow (`keyTokens` on a string literal does not reduce in the kernel). -/
theorem retarget_preserves_meaning (d d' : J) (key v' : String) (h : Replace.updateRef d key v' = .ok d')
    (T : List (String × Pos)) (rest : Bundle) (a1 : J)
    (hget : Spec.Pointer.get d (Replace.keyTokens key) = some a1) (hv1 : Doc.refStr a1 ≠ "") (hv2 : v' ≠ "")
    (q0 q' : Pos) (ht1 : T.lookup (Doc.refStr a1) = some q0) (ht2 : T.lookup v' = some q')
    (hreach : Proofs.Retarget.Reaches (Proofs.RetargetModel.bundleWith d T rest) q0 q')
    (hcanon : AllCanon (Replace.keyTokens key)) (hkeys : keysCanon d = true)
    (hgoodT : ∀ doc s q, (Proofs.RetargetModel.bundleWith d T rest).target doc s = some q →
      Proofs.RetargetModel.Good (Replace.keyTokens key) q)
    (hops : Nat) (had : Proofs.Retarget.RSetting.Adequate (Proofs.RetargetModel.bundleWith d T rest) hops) :
    ∀ n p, Proofs.RetargetModel.Good (Replace.keyTokens key) p →
      unfold (Proofs.RetargetModel.bundleWith d T rest) hops n p =
        unfold (Proofs.RetargetModel.bundleWith d' T rest) hops n p :=
  Proofs.RetargetModel.updR_retarget_preserves d d' (Replace.keyTokens key) v'
    ((Proofs.UpdateComm.updateRef_ok_iff d key v' d').1 h) T rest a1 hget hv1 hv2 q0 q' ht1 ht2 hreach hcanon hkeys hgoodT
    hops had

/-- In-place expansion.  `flattenAnonPointer` (for a simple schema with a single caller)
    and `stripOAIGenForRef` call `UpdateRefWithSchema(k, sch)` where `sch` is the schema the `$ref` at `k` leads to.  For
    every document: if `sch` is the (non-`$ref`, object) node at a position `e` of the root that lies at the end of the
    chain of `$ref`s starting at the old target of `k`, then after `Replace.updateRefWithSchema d key sch` every good
    position (canonically spelled, not at or below `k`; every position of auxiliary documents) and `k` itself denote the
    same tree as before, and `k ++ t` denotes what `e ++ t` denoted.  Same standing hypotheses as
    `retarget_preserves_meaning` (canonical keys, no `$ref` designates a position strictly below `k`, adequate hop
    bound).  Nothing is assumed about `e` and `k` being apart: when `k` lies inside `e` the statement still holds for
    the JSON documents (the cyclic *Go* structure that such a copy builds is the matter of finding-then-fix 3893d90). -/
theorem inline_preserves_meaning (d d' : J) (key : String) (sch : J)
    (h : Replace.updateRefWithSchema d key sch = .ok d')
    (T : List (String × Pos)) (rest : Bundle) (a1 : J)
    (hget : Spec.Pointer.get d (Replace.keyTokens key) = some a1) (hv1 : Doc.refStr a1 ≠ "")
    (etoks : List String) (hsch : Spec.Pointer.get d etoks = some sch) (hobj : ∃ m, sch = .obj m)
    (hne : Doc.refStr sch = "")
    (q0 : Pos) (ht1 : T.lookup (Doc.refStr a1) = some q0)
    (hreach : Proofs.Retarget.Reaches (Proofs.RetargetModel.bundleWith d T rest) q0 ("", etoks))
    (hcanon : AllCanon (Replace.keyTokens key)) (hkeys : keysCanon d = true)
    (hgoodT : ∀ doc s q, (Proofs.RetargetModel.bundleWith d T rest).target doc s = some q →
      Proofs.InlineModel.GoodI (Replace.keyTokens key) q ∨ q = ("", Replace.keyTokens key))
    (hops : Nat) (had : Proofs.Retarget.RSetting.Adequate (Proofs.RetargetModel.bundleWith d T rest) hops)
    (hpos : 0 < hops) :
    (∀ n p, Proofs.InlineModel.GoodI (Replace.keyTokens key) p ∨ p = ("", Replace.keyTokens key) →
      unfold (Proofs.RetargetModel.bundleWith d T rest) hops n p =
        unfold (Proofs.RetargetModel.bundleWith d' T rest) hops n p) ∧
    (∀ n t, unfold (Proofs.RetargetModel.bundleWith d T rest) hops n ("", etoks ++ t) =
      unfold (Proofs.RetargetModel.bundleWith d' T rest) hops n ("", Replace.keyTokens key ++ t)) := by
  obtain ⟨_, _, _, _, hs⟩ := Replace.updateRefWithSchema_ok.1 h
  exact Proofs.InlineModel.setAt_inline_preserves d d' (Replace.keyTokens key) sch hs T rest a1 hget hv1 etoks hsch hobj hne
    q0 ht1 hreach hcanon hkeys hgoodT hops had hpos

/-! ### the rewrites as the phases issue them: what `DeepestRef` returns is on the chain

`namePointers` and `Name` decide what to write from the result of `replace.DeepestRef` (model: `Flatten.deepestRef`).
`Proofs.DeepestReaches.deepestRef_reaches` shows that this result lies on the chain of `$ref`s of the reference it was
asked about — the hypothesis `Reaches` of the two theorems above — so a step of the phases, as the model takes it,
preserves meaning (standing hypotheses as before; `TableOK`: the `$ref` table of the root agrees with the decoder). -/

/-- the `TopLevel` branch of `namePointers` (and the dependents loop of `Name`): `r := DeepestRef(v)`, then
    `UpdateRef(key, r)` -/
theorem pointer_retarget_step_preserves (x : Flatten.Ext) (d d' : J) (key : String) (fuel : Nat) (r : String)
    (sch : Option J) (T : List (String × Pos)) (rest : Bundle) (a1 : J)
    (hget : Spec.Pointer.get d (Replace.keyTokens key) = some a1) (hv1 : Doc.refStr a1 ≠ "")
    (hfrag : Flatten.hasFragmentOnly (Doc.refStr a1) = true)
    (hdeep : Flatten.deepestRef x d fuel (Doc.refStr a1) = .ok (r, sch)) (hr : r ≠ "")
    (hupd : Replace.updateRef d key r = .ok d')
    (hT : Proofs.DeepestReaches.TableOK x T)
    (q0 q' : Pos) (ht1 : T.lookup (Doc.refStr a1) = some q0) (ht2 : T.lookup r = some q')
    (hcanon : AllCanon (Replace.keyTokens key)) (hkeys : keysCanon d = true)
    (hgoodT : ∀ doc s q, (Proofs.RetargetModel.bundleWith d T rest).target doc s = some q →
      Proofs.RetargetModel.Good (Replace.keyTokens key) q)
    (hops : Nat) (had : Proofs.Retarget.RSetting.Adequate (Proofs.RetargetModel.bundleWith d T rest) hops) :
    ∀ n p, Proofs.RetargetModel.Good (Replace.keyTokens key) p →
      unfold (Proofs.RetargetModel.bundleWith d T rest) hops n p =
        unfold (Proofs.RetargetModel.bundleWith d' T rest) hops n p :=
  retarget_preserves_meaning d d' key r hupd T rest a1 hget hv1 hr q0 q' ht1 ht2
    (Proofs.DeepestReaches.deepestRef_reaches x d T rest hT fuel _ r sch hfrag hdeep q0 q' ht1 ht2).1
    hcanon hkeys hgoodT hops had

/-- the expansion branch of `flattenAnonPointer`: `(r, sch) := DeepestRef(v)`, then `UpdateRefWithSchema(key, sch)` -/
theorem pointer_expand_step_preserves (x : Flatten.Ext) (d d' : J) (key : String) (fuel : Nat) (r : String)
    (sch : J) (T : List (String × Pos)) (rest : Bundle) (a1 : J)
    (hget : Spec.Pointer.get d (Replace.keyTokens key) = some a1) (hv1 : Doc.refStr a1 ≠ "")
    (hfrag : Flatten.hasFragmentOnly (Doc.refStr a1) = true)
    (hdeep : Flatten.deepestRef x d fuel (Doc.refStr a1) = .ok (r, some sch))
    (hupd : Replace.updateRefWithSchema d key sch = .ok d')
    (hT : Proofs.DeepestReaches.TableOK x T)
    (q0 : Pos) (etoks : List String) (ht1 : T.lookup (Doc.refStr a1) = some q0) (ht2 : T.lookup r = some ("", etoks))
    (hcanon : AllCanon (Replace.keyTokens key)) (hkeys : keysCanon d = true)
    (hgoodT : ∀ doc s q, (Proofs.RetargetModel.bundleWith d T rest).target doc s = some q →
      Proofs.InlineModel.GoodI (Replace.keyTokens key) q ∨ q = ("", Replace.keyTokens key))
    (hops : Nat) (had : Proofs.Retarget.RSetting.Adequate (Proofs.RetargetModel.bundleWith d T rest) hops)
    (hpos : 0 < hops) :
    (∀ n p, Proofs.InlineModel.GoodI (Replace.keyTokens key) p ∨ p = ("", Replace.keyTokens key) →
      unfold (Proofs.RetargetModel.bundleWith d T rest) hops n p =
        unfold (Proofs.RetargetModel.bundleWith d' T rest) hops n p) ∧
    (∀ n t, unfold (Proofs.RetargetModel.bundleWith d T rest) hops n ("", etoks ++ t) =
      unfold (Proofs.RetargetModel.bundleWith d' T rest) hops n ("", Replace.keyTokens key ++ t)) := by
  obtain ⟨hreach, hs⟩ :=
    Proofs.DeepestReaches.deepestRef_reaches x d T rest hT fuel _ r (some sch) hfrag hdeep q0 ("", etoks) ht1 ht2
  obtain ⟨hnode, hobj, hne⟩ := hs sch rfl
  rw [Proofs.RetargetModel.node_root] at hnode
  exact inline_preserves_meaning d d' key sch hupd T rest a1 hget hv1 etoks hnode hobj hne q0 ht1 hreach hcanon hkeys
    hgoodT hops had hpos

/-- `replace.RewriteSchemaToRef` (model) is the `setAt` of the setting: what the move theorem calls
    "leave a `$ref` node at `toks`" is what the primitive does -/
theorem rewriteSchemaToRef_is_setAt (d : J) (key ref : String) (d1 : J)
    (h : Replace.rewriteSchemaToRef d key ref = .ok d1) :
    Replace.setAt d (Replace.keyTokens key) (Replace.refNode ref) = some d1 := by
  obtain ⟨_, _, _, _, _, hs⟩ := Replace.rewriteSchemaToRef_ok.1 h
  exact hs

/-! ### the hypotheses can be met: moving `{"type": "object"}` out of `{"a": {…}}` -/

def tinyKvs : List (String × J) := [("a", .obj [("type", .str "object")])]

theorem tiny_nodes (p : List String) (j : J) (h : Spec.Pointer.get (.obj tinyKvs) p = some j) : Doc.refStr j = "" := by
  cases p with
  | nil => simp [Spec.Pointer.get] at h; subst h; rfl
  | cons a p1 =>
    simp only [Spec.Pointer.get, Spec.Pointer.step, tinyKvs, lookup] at h
    split at h
    · simp only [Option.bind_some] at h
      cases p1 with
      | nil => simp [Spec.Pointer.get] at h; subst h; rfl
      | cons b p2 =>
        simp only [Spec.Pointer.get, Spec.Pointer.step, lookup] at h
        split at h
        · simp only [Option.bind_some] at h
          cases p2 with
          | nil => simp [Spec.Pointer.get] at h; subst h; rfl
          | cons c p3 => simp [Spec.Pointer.get, Spec.Pointer.step] at h
        · simp at h
    · simp at h

def tiny : Setting where
  kvs := tinyKvs
  toks := ["a"]
  sch := [("type", .str "object")]
  n := "N"
  r := "#/definitions/N"
  loc := .str "models"
  T := []
  rest := { docs := [], refs := [] }
  d1 := .obj [("a", refNode "#/definitions/N")]
  hget := rfl
  hnoref := rfl
  hset := rfl
  htoks1 := by simp
  htoks2 := by simp
  hcanonToks := by intro t ht; simp at ht; subst ht; show canonTokB "a" = true; decide
  hdefs := by intro v hv; simp [tinyKvs, lookup] at hv
  hfresh := rfl
  hcanonN := by show canonTokB "N" = true; decide
  hkeys := by decide
  hrUnused := by
    intro p j h
    rw [tiny_nodes p j h]
    decide

theorem tiny_targetsOK : tiny.TargetsOK :=
  fun _ _ _ h _ => absurd (Proofs.RetargetModel.target_mem h) List.not_mem_nil

theorem tiny_stable : ∀ hops, Setting.Stable tiny.b1 (hops + 1) := by
  intro hops p h
  cases hc : chase tiny.b1 (hops + 1 + 1) p with
  | none => rfl
  | some e =>
    -- the `$ref` table is empty: a chain that ends, ends at once
    rcases Proofs.Bisim.chase_succ_iff.1 hc with ⟨he, _⟩ | ⟨_, ⟨_, _, _, ht⟩, _⟩
    · rw [Proofs.Bisim.chase_end he] at h
      cases h
    · exact absurd (Proofs.RetargetModel.target_mem ht) List.not_mem_nil

/-- the theorem applies to the tiny setting; its second clause: what was at `a` is found under `definitions/N` -/
example (hops : Nat) :
    ∀ n, unfold tiny.b1 (hops + 1) n ("", ["a"]) = unfold tiny.b2 (hops + 2) n ("", ["definitions", "N"]) := by
  intro n
  have := (naming_move_preserves_meaning tiny tiny_targetsOK (by decide) (hops + 1) (tiny_stable hops)).2 n []
    (by intro t ht; cases ht) (by intro k t' h; cases h)
  simpa [tiny, defn] using this

end C01
