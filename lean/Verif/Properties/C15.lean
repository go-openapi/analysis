import Verif.Properties.C14
import Verif.Proofs.Params

/-!
# C15 — effective parameters of an operation are resolved correctly

The specification of the override rule is the right-hand side of `params_override`; the decision table
`Spec.Params.effective` serves the driver only.
-/

namespace C15
open J Params

structure FactsOK (f : Facts) : Prop where
  methods : f.analyzerMethods.Perm (Doc.methods.map fun m => (Str.toUpperAscii m, m))
  idMethods : f.paramsForMethods.Perm Doc.methods
  nilSafe : f.paramsNilSafe = true

/-- asking for a (method, path) that designates no operation — including on a document without
    paths — yields an empty result, never a crash -/
theorem missing_designation_is_empty (f : Facts) (hf : FactsOK f) (x : Ext) (d : J) (hn : C14.PathsNodup d)
    (method path : String) (cb : Bool) (script : List Bool)
    (h : Spec.Ops.operationFor d method path = none) :
    ∃ r, safeParamsFor f x d method path cb script = .ok r ∧ r.res = [] ∧ r.calls = [] := by
  refine ⟨⟨[], []⟩, ?_, rfl, rfl⟩
  unfold safeParamsFor
  rw [(C14.operationFor_exact f ⟨hf.methods⟩ d hn method path).trans h]
  simp [hf.nilSafe]

theorem unknown_id_is_empty (f : Facts) (hf : FactsOK f) (x : Ext) (d : J) (id : String) (cb : Bool) (script : List Bool)
    (h : ((Spec.Ops.allOps d).filter fun o => Spec.Ops.idOf o = id) = []) :
    ∃ r, safeParametersFor f x d id cb script = .ok r ∧ r.res = [] ∧ r.calls = [] := by
  refine ⟨⟨[], []⟩, ?_, rfl, rfl⟩
  unfold safeParametersFor
  rw [Proofs.Params.findByID_unknown f hf.idMethods d id h]
  split <;> simp [hf.nilSafe]

theorem safe_never_panics (f : Facts) (hf : FactsOK f) (x : Ext) (d : J) (method path id : String) (script : List Bool) :
    (safeParamsFor f x d method path true script).isPanic = false ∧
    (safeParametersFor f x d id true script).isPanic = false := by
  -- both run the loop with a callback over the path item's and then the operation's parameters
  have run (ps₁ ps₂ : List J) :
      (finish (paramsAsMap x d true ps₂ (paramsAsMap x d true ps₁ ⟨[], [], script, false⟩))).isPanic = false := by
    simp [finish, Outcome.isPanic, Proofs.Params.safe_not_panicked]
  constructor
  · unfold safeParamsFor
    split
    · simp [hf.nilSafe, Outcome.isPanic]
    · exact run _ _
  · unfold safeParametersFor
    split
    · split
      · rfl
      · exact run _ _
    · simp [hf.nilSafe, Outcome.isPanic]

/-- a parameter list in which every `$ref` designates a parameter of the document -/
def AllResolve (x : Ext) (d : J) (ps : List J) : Prop :=
  ∀ p ∈ ps, Doc.refStr p ≠ "" → ∃ t, resolveParam x d (Doc.refStr p) = .ok t

/-- `Proofs.Params.resolved` again, under the name the statement of `params_override` uses -/
def resolved (x : Ext) (d : J) (p : J) : Option J :=
  if Doc.refStr p = "" then some p else (resolveParam x d (Doc.refStr p)).toOption

/-- override rule: when every reference resolves, the value under a key is the *last* parameter
    (path-level first, then the operation's own) with that key, `$ref`s replaced by their targets;
    the callback is never invoked -/
theorem params_override (x : Ext) (d : J) (cb : Bool) (ps : List J) (acc : Acc)
    (hr : AllResolve x d ps) (hp : acc.panicked = false) (k : String) :
    let out := paramsAsMap x d cb ps acc
    out.panicked = false ∧ out.calls = acc.calls ∧
    lookup k out.res =
      (match ((ps.filterMap (resolved x d)).filter fun p => mapKey x p = k).getLast? with
       | some p => some p
       | none => lookup k acc.res) :=
  Proofs.Params.params_override x d cb ps acc hr hp k

/-- no unresolved placeholder is ever returned: every value put in the result by `paramsAsMap` is
    either an inline parameter or the target of a resolved reference -/
theorem no_placeholder (x : Ext) (d : J) (cb : Bool) (ps : List J) (acc : Acc)
    (hacc : ∀ kv ∈ acc.res, Doc.refStr kv.2 = "")
    (hshared : ∀ r t, resolveParam x d r = .ok t → Doc.refStr t = "") :
    ∀ kv ∈ (paramsAsMap x d cb ps acc).res, Doc.refStr kv.2 = "" :=
  Proofs.Params.no_placeholder x d cb ps acc hacc hshared

/-- the plain variants (nil callback) panic exactly when some reference does not resolve to a parameter -/
theorem plain_panics_iff_bad_ref (x : Ext) (d : J) (ps : List J) (acc : Acc) (hp : acc.panicked = false) :
    (paramsAsMap x d false ps acc).panicked = true ↔
      ∃ p ∈ ps, Doc.refStr p ≠ "" ∧ ∀ t, resolveParam x d (Doc.refStr p) ≠ .ok t :=
  Proofs.Params.plain_panics_iff_bad_ref x d ps acc hp

/-- with a callback that always answers "continue", it is invoked exactly once per reference that
    does not resolve to a parameter, in order, with the matching error -/
theorem safe_reports_exactly_bad_refs (x : Ext) (d : J) (ps : List J) (acc : Acc)
    (hp : acc.panicked = false) (hs : acc.script = []) :
    (paramsAsMap x d true ps acc).calls = acc.calls ++
      ps.filterMap fun p =>
        if Doc.refStr p = "" then none
        else match resolveParam x d (Doc.refStr p) with
          | .ok _ => none
          | .error e => some (Doc.refStr p, e) :=
  Proofs.Params.safe_reports_exactly_bad_refs x d ps acc hp hs

end C15
