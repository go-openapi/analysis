import Verif.Proofs.FlattenPipeline

/-!
# C01, first clause — every path, operation, parameter, response and header is unchanged (pipeline model)

For every document, option set, external-function table and fuel: when the modelled pipeline of
Flatten (every phase after `spec.ExpandSpec`, import loop included) returns normally, every top-level
part of the document other than `definitions` — and, with RemoveUnused, other than the shared
`parameters` / `responses` sections, which that option drops — is still there with the same
*skeleton*: same object keys in the same order, same array lengths, equal scalars, everywhere except
inside schemas, maps of schemas and lists of schemas (`Proofs.Skeleton.SkelRel`; the kinds are those
of `internal/flatten/replace`).

Read along token paths (`reachesOther`): whatever a JSON pointer designates once it has left the way
to the schemas — an operation's `operationId`, `summary`, `tags`, `consumes`, `security`; a non-body
parameter entirely; the `name`, `in`, `required`, `description` of a body parameter; a response's
`description`, `headers`, `examples`; `info`, `host`, `basePath`, `securityDefinitions`, extensions —
is *equal* before and after.  What happens inside the schemas is the business of the other clauses of
C01 (`cert_sound` per run, `naming_move_preserves_meaning`).
-/

namespace Proofs.Skeleton

/-- the top-level parts Flatten may replace wholesale -/
def excluded (o : Flatten.Opts) : List String :=
  if o.removeUnused then ["definitions", "parameters", "responses"] else ["definitions"]

theorem mem_excluded {o : Flatten.Opts} {key : String} : key ∈ excluded o ↔
    key = "definitions" ∨ (o.removeUnused = true ∧ (key = "parameters" ∨ key = "responses")) := by
  unfold excluded
  split <;> simp [*]

end Proofs.Skeleton

namespace C01
open Replace Flatten Proofs.Skeleton

/-- the pipeline keeps the skeleton of every top-level part it does not own: the phases wrote only inside schema
    positions, `removeUnusedShared` and the removal loop touch excluded parts only -/
theorem pipeline_keeps_skeleton (fc : Facts) (x : Ext) (o : Opts) (fuel : Nat) (s s' : St)
    (h : flatten fc x o fuel s = .ok s') : Keeps (excluded o) s.doc s'.doc := by
  have hdefs : "definitions" ∈ excluded o := mem_excluded.2 (.inl rfl)
  obtain ⟨d1, d5, w1, w5, hd⟩ := Proofs.FlattenPipeline.pipeline_doc fc x o
    (fun s s' h => (Proofs.FlattenPhases.importReferences_writes fc x o fuel s s' h).any) fuel s s'
    ((Proofs.FlattenPipeline.flatten_eq fc x o fuel s).symm.trans h)
  have k1 : Keeps (excluded o) s.doc d1 := w1.keeps hdefs
  by_cases hr : o.removeUnused = true
  · simp only [hr, if_true] at w5 hd
    have k5 := (k1.of_get? fun key hk => Proofs.RemoveUnused.get?_removeShared_ne d1 key
      (fun e => hk (mem_excluded.2 (.inr ⟨hr, .inl e⟩))) (fun e => hk (mem_excluded.2 (.inr ⟨hr, .inr e⟩)))).trans
      (w5.keeps hdefs)
    exact k5.of_get? fun key hk =>
      (Proofs.RemoveUnused.removeUnused_ok fc _ _ d5 _ hd).2.2 key fun e => hk (e ▸ hdefs)
  · simp only [hr] at w5 hd
    exact hd ▸ k1.trans (w5.keeps hdefs)

/-- top-level parts that are not on the way to a schema (`info`, `host`, `basePath`, `schemes`, `consumes`,
    `produces`, `tags`, `security`, `securityDefinitions`, `externalDocs`, `swagger`, extensions) are equal -/
theorem pipeline_keeps_plain_parts (fc : Facts) (x : Ext) (o : Opts) (fuel : Nat) (s s' : St)
    (h : flatten fc x o fuel s = .ok s') (key : String)
    (hk : key ≠ "definitions" ∧ key ≠ "paths" ∧ key ≠ "parameters" ∧ key ≠ "responses") :
    s'.doc.get? key = s.doc.get? key := by
  have hmem : key ∉ excluded o := by simp [mem_excluded, hk.1, hk.2.2.1, hk.2.2.2]
  have hr := pipeline_keeps_skeleton fc x o fuel s s' h key hmem
  have hkind : memberKind .swagger key = .other := by
    simp [memberKind, childKind, hk.1, hk.2.1, hk.2.2.1, hk.2.2.2]
  exact (hkind ▸ hr).eq_of_other.symm

/-- below `paths`, what a pointer designates after leaving the way to the schemas is equal: e.g. the
    description of a response, the whole of a non-body parameter, an operation id -/
theorem pipeline_keeps_paths (fc : Facts) (x : Ext) (o : Opts) (fuel : Nat) (s s' : St)
    (h : flatten fc x o fuel s = .ok s') (toks : List String) (hr : reachesOther .paths toks = true) :
    Spec.Pointer.get s'.doc ("paths" :: toks) = Spec.Pointer.get s.doc ("paths" :: toks) := by
  have hmem : "paths" ∉ excluded o := by simp [mem_excluded]
  have hrel := pipeline_keeps_skeleton fc x o fuel s s' h "paths" hmem
  simp only [Spec.Pointer.get]
  have hstep := step_eq_get? (by decide : Spec.Pointer.natOfDigits "paths".toList = none)
  rw [hstep, hstep]
  exact (hrel.bind_congr fun _ _ hab => SkelRel.get_eq toks hab hr).symm

/-- the paths of the document are the same, in the same order -/
theorem pipeline_keeps_path_keys (fc : Facts) (x : Ext) (o : Opts) (fuel : Nat) (s s' : St)
    (h : flatten fc x o fuel s = .ok s') :
    (s'.doc.getObj "paths").map (·.1) = (s.doc.getObj "paths").map (·.1) := by
  have hmem : "paths" ∉ excluded o := by simp [mem_excluded]
  have hrel := pipeline_keeps_skeleton fc x o fuel s s' h "paths" hmem
  unfold J.getObj
  generalize s.doc.get? "paths" = a at hrel
  generalize s'.doc.get? "paths" = b at hrel
  cases hrel with
  | none => rfl
  | some a b hab =>
    cases hab with
    | opq _ _ _ ho => simp [isOpaque, isSchemaKind, memberKind, childKind] at ho
    | refl => rfl
    | obj _ m m' hm => exact SkelKvs.keys_eq hm
    | arr _ xs ys _ => rfl

/-- no top-level part appears or disappears, except `definitions` (where the new definitions go) and,
    with RemoveUnused, the shared sections that option drops: "the only additions are new definitions" -/
theorem pipeline_adds_no_top_level_part (fc : Facts) (x : Ext) (o : Opts) (fuel : Nat) (s s' : St)
    (h : flatten fc x o fuel s = .ok s') (key : String) (hk : key ∉ excluded o) :
    (s'.doc.get? key).isSome = (s.doc.get? key).isSome :=
  (pipeline_keeps_skeleton fc x o fuel s s' h key hk).isSome_eq

example : reachesOther .paths ["/pets/{id}", "get", "responses", "200", "description"] = true := by decide +kernel
example : reachesOther .paths ["/pets/{id}", "get", "responses", "default", "headers", "X-Rate", "items", "pattern"] = true := by decide +kernel
example : reachesOther .paths ["/pets", "post", "operationId"] = true := by decide +kernel
example : reachesOther .paths ["/pets", "post", "parameters", "0", "name"] = true := by decide +kernel
example : reachesOther .paths ["/pets", "parameters", "1", "in"] = true := by decide +kernel
/-- a path `reachesOther` refuses: the schema of a response is where the phases do write -/
example : reachesOther .paths ["/pets", "get", "responses", "200", "schema", "type"] = false := by decide +kernel

end C01
