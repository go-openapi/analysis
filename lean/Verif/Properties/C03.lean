import Verif.Proofs.Names
import Verif.Proofs.JsonLemmas

/-!
# C03 — created names are fresh up to letter case (model of `uniqifyName`)
-/

namespace C03
open Names

structure FactsOK (f : Facts) : Prop where
  caseInsensitive : f.uniqifyCaseInsensitive = true

/-- the name `uniqifyName` returns never equals an existing definition name, not even up to case
    (whenever there are definitions at all; with none, any name is fresh) -/
theorem uniqify_fresh (f : Facts) (hf : FactsOK f) (x : Ext) (defs : List String) (name : String) (fuel : Nat)
    (r : String × Bool) (h : uniqifyName f x defs name fuel = .ok r) :
    knownFold x defs r.1 = false := by
  -- the out-of-fuel exit contradicts `h`; the others identify `r`
  rcases Proofs.Names.uniqifyName_cases f x defs name fuel with ⟨e, hd | hk⟩ | ⟨u, e, hs⟩ | ⟨e, _⟩ <;>
    rw [e] at h <;> cases h
  · subst hd; rfl
  · exact hk
  · rw [hf.caseInsensitive] at hs
    exact (Proofs.Names.search_some _ _ _ _ _ hs).1

/-- the conflict flag is raised exactly when the requested name could not be used as it is -/
theorem flag_iff_changed (f : Facts) (x : Ext) (defs : List String) (name : String) (fuel : Nat)
    (r : String × Bool) (hne : name ≠ "") (h : uniqifyName f x defs name fuel = .ok r) :
    r.2 = false ↔ r.1 = name := by
  rcases Proofs.Names.uniqifyName_cases f x defs name fuel with ⟨e, _⟩ | ⟨u, e, hs⟩ | ⟨e, _⟩ <;>
    rw [e] at h <;> cases h
  · simp [hne]
  · obtain ⟨_, j, rfl⟩ := Proofs.Names.search_some _ _ _ _ _ hs
    simp only [if_neg hne]
    simpa using Proofs.Names.candidate_ne name j

/-- the search terminates: among `defs.length + 1` candidates with pairwise different fold keys one
    is unknown, so fuel `defs.length + 1` suffices -/
theorem uniqify_terminates (f : Facts) (hf : FactsOK f) (x : Ext) (defs : List String) (name : String) (fuel : Nat)
    (hfuel : fuel ≥ defs.length + 1)
    (hinj : ∀ base i j, i ≤ defs.length → j ≤ defs.length → x.fold (candidate base i) = x.fold (candidate base j) → i = j) :
    uniqifyName f x defs name fuel ≠ .outOfFuel := by
  intro h
  rcases Proofs.Names.uniqifyName_cases f x defs name fuel with ⟨e, _⟩ | ⟨u, e, _⟩ | ⟨_, hs⟩
  · rw [e] at h; cases h
  · rw [e] at h; cases h
  · rw [hf.caseInsensitive] at hs
    exact Proofs.Names.search_fold_ne_none x defs _ fuel hfuel (hinj _) hs

/-- without the case-insensitive second stage (defect D8) the result can equal an existing name up to case -/
theorem not_fresh_without_fold :
    let x : Ext := { fold := Str.toLowerAscii }
    let f : Facts := { Facts.reference with uniqifyCaseInsensitive := false }
    ∃ r, uniqifyName f x ["a", "AOAIGEN"] "a" 5 = .ok r ∧ knownFold x ["a", "AOAIGEN"] r.1 = true := by
  exact ⟨("aOAIGen", true), by rfl, by decide⟩

/-- saving a definition under any name `n` leaves every definition under another name as it was -/
theorem save_keeps_others (defs : List (String × J)) (n : String) (v : J) (k : String) (h : k ≠ n) :
    J.lookup k (J.setKv n v defs) = J.lookup k defs :=
  J.lookup_setKv_ne n k v defs h

end C03
