import Verif.Proofs.Flat
import Verif.Properties.C01Skeleton

/-!
# C02 / C05 / C06 — the output validators say what they are meant to say

The validators of `Spec.Flat` are executable; these theorems spell out what acceptance means and
that the generic `$ref` walk misses nothing.
-/

namespace C02
open J Spec.Flat

/-- `Proofs.Flat.canonIdx` as a `Prop`: the array indices on the path are spelled canonically (`"7"`, not `"007"`) -/
def CanonicalIndices (d : J) (toks : List String) : Prop := Proofs.Flat.canonIdx d toks = true

instance (d : J) (toks : List String) : Decidable (CanonicalIndices d toks) :=
  inferInstanceAs (Decidable (_ = true))

-- `hn` is part of the statement but the proof does not need it
set_option linter.unusedVariables false in
/-- completeness of the generic walk: every object of the document that can be reached by a JSON
    pointer and carries a non-empty string `$ref` is listed, with that pointer.

    Without `hc : CanonicalIndices d toks` the statement is false:
    `Spec.Pointer.get` reads array indices with `natOfDigits`, which accepts leading zeros, so
    `(.arr [.obj [("$ref", .str "x")]])` resolves `["00"]` to the `$ref` holder, while the walk lists
    it under `["0"]` only (`C02.Counterexamples.complete_needs_canonical_indices`). -/
theorem allRefs_complete (d : J) (hn : C12.NodupKeys d) (toks : List String) (j : J) (r : String)
    (hc : CanonicalIndices d toks)
    (hg : Spec.Pointer.get d toks = some j) (hr : j.get? "$ref" = some (.str r)) (hne : r ≠ "") :
    (toks, r) ∈ allRefs d := by
  simpa [allRefs] using Proofs.Flat.refNodes_complete toks d [] j r hc hg hr hne

/-- soundness of the walk: everything listed is really there -/
theorem allRefs_sound (d : J) (hn : C12.NodupKeys d) (tr : List String × String) (h : tr ∈ allRefs d) :
    ∃ j, Spec.Pointer.get d tr.1 = some j ∧ j.get? "$ref" = some (.str tr.2) ∧ tr.2 ≠ "" :=
  Proofs.Flat.refNodes_sound d hn [] rfl tr h

/-- C02: an accepted document has every `$ref` on a schema position and spelled exactly as the
    canonical reference of a definition present in the document -/
theorem canonical_sound (canon : String → String) (d : J) (h : isCanonical canon d = true) :
    ∀ tr ∈ allRefs d,
      (∃ kv ∈ d.getObj "definitions", tr.2 = canon kv.1) ∧ tr.1 ∈ schemaToks d := by
  intro tr htr
  have := List.filter_eq_nil_iff.1 (List.isEmpty_iff.1 h) tr htr
  simp only [Bool.not_eq_true', Bool.not_eq_false, Bool.and_eq_true] at this
  exact ⟨Proofs.Flat.mem_canonRefs this.1, List.contains_iff_mem.1 this.2⟩

/-- C05 (first part) / C06 (no dangling): every remaining `$ref` targets a present definition -/
theorem local_sound (canon : String → String) (d : J) (h : nonLocal canon d = []) :
    ∀ tr ∈ allRefs d, ∃ kv ∈ d.getObj "definitions", tr.2 = canon kv.1 := by
  intro tr htr
  have := List.filter_eq_nil_iff.1 h tr htr
  simp only [Bool.not_eq_true', Bool.not_eq_false] at this
  exact Proofs.Flat.mem_canonRefs this

/-- C06: every remaining definition is referred to by at least one `$ref` -/
theorem referenced_sound (canon : String → String) (d : J) (h : unreferenced canon d = []) :
    ∀ kv ∈ d.getObj "definitions", ∃ tr ∈ allRefs d, tr.2 = canon kv.1 := by
  intro kv hkv
  have := List.filter_eq_nil_iff.1 h kv.1 (List.mem_map.2 ⟨kv, hkv, rfl⟩)
  simp only [Bool.not_eq_true', Bool.not_eq_false] at this
  exact List.mem_map.1 (List.contains_iff_mem.1 this)

/-! ### first half of C02 on the pipeline model: the phases after the expansion leave the non-schema `$ref`s alone

Phase 1 (`spec.ExpandSpec`, a library call) replaces every parameter, response, path-item and items
`$ref` by its target.  Every later phase writes only inside schema positions (`C01.pipeline_keeps_skeleton`),
so whatever `$ref` a parameter, a response, a path item or an items object carries — in particular:
none — when the expansion is done, it carries when Flatten returns: for every document, option set,
table and fuel. -/

/-- the `$ref` member of a parameter, a response, a path item, or an items / header object below
    `paths` is the same before and after the pipeline (absent stays absent) -/
theorem nonschema_refs_untouched (fc : Facts) (x : Flatten.Ext) (o : Flatten.Opts) (fuel : Nat) (s s' : Flatten.St)
    (h : Flatten.flatten fc x o fuel s = .ok s') (toks : List String)
    (hr : Proofs.Skeleton.reachesOther .paths (toks ++ ["$ref"]) = true) :
    Spec.Pointer.get s'.doc ("paths" :: (toks ++ ["$ref"])) = Spec.Pointer.get s.doc ("paths" :: (toks ++ ["$ref"])) :=
  C01.pipeline_keeps_paths fc x o fuel s s' h (toks ++ ["$ref"]) hr

example : Proofs.Skeleton.reachesOther .paths (["/p", "get", "parameters", "0"] ++ ["$ref"]) = true := by decide +kernel
example : Proofs.Skeleton.reachesOther .paths (["/p", "parameters", "2"] ++ ["$ref"]) = true := by decide +kernel
example : Proofs.Skeleton.reachesOther .paths (["/p", "get", "responses", "200"] ++ ["$ref"]) = true := by decide +kernel
example : Proofs.Skeleton.reachesOther .paths (["/p"] ++ ["$ref"]) = true := by decide +kernel
example : Proofs.Skeleton.reachesOther .paths (["/p", "get", "parameters", "0", "items", "items"] ++ ["$ref"]) = true := by decide +kernel
example : Proofs.Skeleton.reachesOther .paths (["/p", "get", "responses", "default", "headers", "X-A", "items"] ++ ["$ref"]) = true := by decide +kernel
/-- … whereas the `$ref` of a schema is exactly what the phases rewrite -/
example : Proofs.Skeleton.reachesOther .paths (["/p", "get", "responses", "200", "schema"] ++ ["$ref"]) = false := by decide +kernel

end C02
