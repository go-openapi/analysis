import Verif.Proofs.NoPanic

/-!
# C09 — fail safe: no panic is reachable in the modelled pipeline of Flatten

The model writes a Go run-time panic as the outcome `.panic`.  For every document, option set,
external-function table, flatten context and amount of fuel, the modelled pipeline (every phase after
`spec.ExpandSpec`: `normalizeRef`, `removeUnusedShared`, the import loop with `importNewRef` /
`importKnownRef`, `nameInlinedSchemas` with the namer, `namePointers` with `DeepestRef` and
`flattenAnonPointer`, `stripOAIGen`, the fixpoint loop, `removeUnused`) returns `ok`, an error, or runs
out of fuel — never a panic.  `stripOAIGenForRef` takes as first parent the topmost one outside of the
definition, found by a search, and does nothing when there is none (`strip_never_panics`,
`strip_skips_self_references`).

What this does not cover: panics *inside* the libraries the model treats as external functions
(`spec.ExpandSpec`, `jsonpointer`, `swag`), typed-nil dereferences that the JSON view of a document
cannot express (the model returns the error the repaired code returns: fixes `a80dca9`, `6dcc395`),
stack exhaustion and wall-clock hangs — those are decided per run by the child-process outcomes of the
`flatten` / `flattenPlus` streams (fault enumeration).  Termination of the modelled loops is
`C06.terminates`, `C20.terminates`, `C03.uniqify_terminates`.
-/

namespace C09
open Flatten Proofs.NoPanic

theorem pipeline_never_panics (fc : Facts) (x : Ext) (o : Opts) (fuel : Nat) (s : St) (w : String) :
    flatten fc x o fuel s ≠ .panic w :=
  (np_flatten fc x o fuel s).ne_panic w

theorem pipeline_local_never_panics (fc : Facts) (x : Ext) (o : Opts) (fuel : Nat) (s : St) (w : String) :
    flattenLocal fc x o fuel s ≠ .panic w :=
  (np_flattenLocal fc x o fuel s).ne_panic w

/-- `analysis.Schema` (the classification model) never panics -/
theorem classify_never_panics (fc : Facts) (x : Classify.Ext) (root : J) (fuel : Nat) (visited : List String)
    (s : J) (w : String) : Classify.classify fc x root fuel visited s ≠ .panic w :=
  (np_classify fc x root fuel visited s).ne_panic w

theorem strip_never_panics (fc : Facts) (x : Ext) (st : St) (k : String) (r : NewRef) (w : String) :
    stripOAIGenForRef fc x st k r ≠ .panic w :=
  (np_stripOAIGenForRef fc x st k r).ne_panic w

/-- an entry whose parents all lie inside its own definition (an array or map of itself that nothing
    else refers to) is left alone: no re-inlining into itself -/
theorem strip_skips_self_references (fc : Facts) (x : Ext) (st : St) (k : String) (r : NewRef)
    (h : (SortRef.topmostFirst r.parents).findIdx?
      (fun p => p ≠ r.path && !Str.hasPrefix (r.path ++ "/") p) = none) :
    stripOAIGenForRef fc x st k r = .ok (st, false) := by
  unfold stripOAIGenForRef
  dsimp only
  rw [h]
  rfl

end C09
