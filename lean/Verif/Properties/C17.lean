import Verif.Proofs.MixinWarns

/-!
# C17 — Mixin is an ordered, primary-wins merge that reports every collision

Model: `Mixin.mixin` (Verif/Model/Mixin.lean), parameterised by facts extracted from mixin.go.
Spec: `Spec.Mixin` (first-wins lookup, de-duplicated union, first-non-empty, collision count), over
`docs = primary :: mixins`.  All theorems hold for every JSON object `primary`, every list of
mixins (any length; the property text has 0..3) and every order of the entries inside each object
(the lists standing for Go maps are arbitrary, so every iteration order is covered).

`never_panics`, `keyed_first_wins` and `lists_dedup_union` are as the property text has them.
`paths_first_wins`, `scalars_filled_from_first` and `warnings_count` are false for the model in that
form; each carries decidable hypotheses the property text does not have, and the counterexamples
that force them are in `Verif/Properties/C17Counterexamples.lean`.
That the theorems make the driver's `Spec.Mixin.failedClauses` empty is by reading.
-/

namespace C17
open J Spec.Mixin

structure FactsOK (f : Facts) : Prop where
  extDocsGuard : f.mixinExtDocsGuard = true

/-- absent (Go: nil pointer), or a JSON object -/
def objOrAbsent : Option J → Bool
  | none => true
  | some j => j.isObj

/-- the nil-able structs met along `path` (`info`, `info.contact`, `info.license`, `externalDocs`)
    are JSON objects when present — what `go-openapi/spec` guarantees for any document it loaded -/
def objAlong : List String → Option J → Bool
  | [], _ => true
  | key :: rest, o => objOrAbsent (o.bind (·.get? key)) && objAlong rest (o.bind (·.get? key))

/-- the maps of a mixin that the merge ranges over (the five keyed sections; the extensions of the
    document, `info`, `info.contact`, `info.license`) have distinct keys: they are Go maps -/
def DistinctKeys (m : J) : Prop :=
  (∀ s ∈ keyedSections, ((sectionOf s m).map (·.1)).Nodup) ∧
  (extKeysOf (some m)).Nodup ∧ (extKeysOf (info m)).Nodup ∧
  (extKeysOf (sub "contact" (info m))).Nodup ∧ (extKeysOf (sub "license" (info m))).Nodup

instance (m : J) : Decidable (DistinctKeys m) := by unfold DistinctKeys; infer_instance

theorem objAlong_eq : objAlong = Proofs.Mixin.objAlong := by
  funext path
  induction path with
  | nil => rfl
  | cons key rest ih => funext o; simp only [objAlong, Proofs.Mixin.objAlong, ih]; rfl

/-- Mixin never panics, whichever optional parts are absent from either side -/
theorem never_panics (f : Facts) (h : FactsOK f) (p : J) (ms : List J) :
    ∃ r, Mixin.mixin f p ms = .ok r :=
  Proofs.Mixin.mixin_never_panics f h.extDocsGuard p ms

/-- keyed sections other than paths: the value under every key is the one of the first document
    (primary, mixin 1, mixin 2, …) that has the key -/
theorem keyed_first_wins (f : Facts) (p : J) (ms : List J) (r : J × List Mixin.Warn)
    (hp : p.isObj = true) (hr : Mixin.mixin f p ms = .ok r)
    (sect : String) (hs : sect ∈ ["definitions", "parameters", "responses", "securityDefinitions"])
    (k : String) :
    lookup k (r.1.getObj sect) = firstWins (p :: ms) sect k := by
  have hne := Proofs.Mixin.keyed4_ne_paths sect hs
  have := Proofs.Mixin.mixin_firstWins f id p ms r hp hr sect (List.mem_cons_of_mem _ hs) (fun h => absurd h hne) k
  rwa [Proofs.Mixin.sectionOf_ne _ _ hne, Option.map_id_fun, id, id] at this

/-- paths: first document wins; the path item is the original one up to operation ids (C18).

    ADDED HYPOTHESIS `hm`: the fields `pathItemOps` collects are operation fields.  Without it the
    statement is false: with `mixinMethods = ["x"]` the renaming loop writes an `operationId` under
    the key "x", which `stripOpIds` (the seven methods) does not remove
    (`C17.Counterexamples.paths_needs_methods`). -/
theorem paths_first_wins (f : Facts) (p : J) (ms : List J) (r : J × List Mixin.Warn)
    (hp : p.isObj = true) (hr : Mixin.mixin f p ms = .ok r) (k : String)
    (hm : ∀ m ∈ f.mixinMethods, Doc.isMethodKey m = true) :
    (lookup k (Doc.pathItems r.1)).map stripOpIds = (firstWins (p :: ms) "paths" k).map stripOpIds :=
  Proofs.Mixin.sectionOf_paths r.1 ▸
    Proofs.Mixin.mixin_firstWins f stripOpIds p ms r hp hr "paths" (List.mem_cons_self ..)
      (fun _ => Proofs.Mixin.renameOps_strip f hm) k

/-- list-valued fields are the order-preserving de-duplicated union, starting from the primary's list -/
theorem lists_dedup_union (f : Facts) (p : J) (ms : List J) (r : J × List Mixin.Warn)
    (hp : p.isObj = true) (hr : Mixin.mixin f p ms = .ok r) :
    (∀ k ∈ ["consumes", "produces", "schemes", "security"],
        r.1.getArr k = expectedList k (· == ·) (p :: ms)) ∧
    r.1.getArr "tags" = expectedList "tags" sameTag (p :: ms) := by
  have h := Proofs.Mixin.mixin_lists f p ms r hp hr
  refine ⟨?_, h.tags⟩
  intro k hk
  simp only [List.mem_cons, List.not_mem_nil, or_false] at hk
  rcases hk with rfl | rfl | rfl | rfl
  · exact h.consumes
  · exact h.produces
  · exact h.schemes
  · exact h.security

/-- empty scalar fields are filled from the first document that has them.

    ADDED HYPOTHESIS `hsh`: in every document, the structs on the way to the field are JSON objects
    when present (nothing is asked for `host` and `basePath`).  Without it the statement is false: a
    primary with `"info": 5` keeps it, so `info.title` stays empty whatever the mixins offer
    (`C17.Counterexamples.scalars_needs_objects`). -/
theorem scalars_filled_from_first (f : Facts) (p : J) (ms : List J) (r : J × List Mixin.Warn)
    (hp : p.isObj = true) (hr : Mixin.mixin f p ms = .ok r)
    (pk : List String × String) (hpk : pk ∈ scalarFields)
    (hsh : ∀ d ∈ p :: ms, objAlong pk.1 (some d) = true) :
    strAt pk.1 pk.2 r.1 = firstNonEmpty pk.1 pk.2 (p :: ms) :=
  Proofs.Mixin.mixin_scalars f p ms r hp hr pk hpk (objAlong_eq ▸ hsh)

/-- the returned list has as many entries as the specification counts collisions (`expectedWarnings`:
    key collisions, and duplicates offered for `tags` and `security`).

    ADDED HYPOTHESES.  `hdk`: the maps of every mixin have distinct keys; otherwise the second
    occurrence of a key inside one mixin is reported although no other document has it
    (`C17.Counterexamples.warnings_needs_distinct_keys`).  `hsh`: `info`, `info.contact` and
    `info.license` are JSON objects when present; otherwise a primary with `"info": 5` never merges
    extensions of `info` and reports none of their collisions
    (`C17.Counterexamples.warnings_needs_objects`). -/
theorem warnings_count (f : Facts) (p : J) (ms : List J) (r : J × List Mixin.Warn)
    (hp : p.isObj = true) (hr : Mixin.mixin f p ms = .ok r)
    (hsh : ∀ d ∈ p :: ms, objAlong ["info", "contact"] (some d) = true ∧
                          objAlong ["info", "license"] (some d) = true)
    (hdk : ∀ m ∈ ms, DistinctKeys m) :
    r.2.length = expectedWarnings (p :: ms) := by
  apply Proofs.Mixin.mixin_warnings f p ms r hp hr
  · intro d hd
    have := hsh d hd
    simp only [objAlong, Bool.and_true, Bool.and_eq_true] at this
    exact ⟨this.1.1, this.1.2, this.2.2⟩
  · intro m hm
    obtain ⟨h1, h2, h3, h4, h5⟩ := hdk m hm
    exact ⟨h1, h2, h3, h4, h5⟩

/-- with no mixin the primary comes back as it was (only a missing / null `paths` becomes the empty object, as
    `initPrimary` does), and nothing is reported -/
theorem no_mixins_identity (f : Facts) (p : J) :
    Mixin.mixin f p [] = .ok (Mixin.initPrimary p, []) := by
  simp [Mixin.mixin, Mixin.steps]

/-- … and a primary that has a `paths` object is returned unchanged -/
theorem no_mixins_unchanged (f : Facts) (p : J) (kvs : List (String × J)) (h : p.get? "paths" = some (.obj kvs)) :
    Mixin.mixin f p [] = .ok (p, []) := by
  rw [no_mixins_identity]
  simp [Mixin.initPrimary, h]

end C17
