import Verif.Properties.C02

/-!
# C02 — why `allRefs_complete` needs `CanonicalIndices`

`complete_needs_canonical_indices` exhibits an input for which the statement *without* `CanonicalIndices` fails
(`dArr_nodupKeys`: its other hypothesis holds there).  It is checked by evaluation in the kernel (`rfl`, `decide`).
-/

namespace C02.Counterexamples
open J Spec.Flat

def holder : J := .obj [("$ref", .str "x")]
def dArr : J := .arr [holder]

/-- the pointer `/00` resolves to the `$ref` holder (array indices are read with leading zeros),
    the document has distinct keys everywhere, yet the walk lists the holder under `/0` only -/
theorem complete_needs_canonical_indices :
    Spec.Pointer.get dArr ["00"] = some holder ∧ holder.get? "$ref" = some (.str "x") ∧ "x" ≠ "" ∧
    allRefs dArr = [(["0"], "x")] ∧ (["00"], "x") ∉ allRefs dArr ∧ ¬ CanonicalIndices dArr ["00"] := by
  refine ⟨?_, ?_, by decide, by decide, by decide, by decide⟩
  · rfl
  · rfl

theorem dArr_nodupKeys : C12.NodupKeys dArr :=
  .arr _ fun x hx => by
    rw [List.mem_singleton.1 hx]
    exact .obj _ (by simp) fun kv hkv => by rw [List.mem_singleton.1 hkv]; exact .str _

end C02.Counterexamples
