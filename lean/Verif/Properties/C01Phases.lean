import Verif.Proofs.RetargetFold
import Verif.Proofs.OrderIndep

/-!
# C01 — a whole phase preserves the meaning of the API: `normalizeRef`

A statement of C01 about a *phase* of the pipeline model rather than about one rewrite: the loop of
`normalizeRef` (`Proofs.OrderIndep.normalizeFold`; `C07.normalizeRef_is_the_loop` shows that `Flatten.normalizeRef` is
this loop followed by `reload()`) is a sequence of re-targetings in which the old and the new `$ref` string designate
the same position.  Each step meets the hypotheses of `C01.retarget_preserves_meaning`, and the hypotheses of the next
step are re-established in the rewritten document (`Proofs.RetargetFold.applySteps_preserves`: canonical keys survive,
the hop bound stays adequate, the `$ref` of every other key is still where it was).
-/

namespace C01
open J Spec.Meaning Proofs.RetargetFold Proofs.RetargetModel Proofs.Retarget Proofs.MoveBase

theorem normalizeRef_preserves_meaning (x : Flatten.Ext) (o : Flatten.Opts) (refs : List (String × String)) (d dn : J)
    (h : Proofs.OrderIndep.normalizeFold x o refs d = .ok dn)
    (T : List (String × Pos)) (rest : Bundle) (hops : Nat) (hpos : 0 < hops)
    (hT : ∀ doc s q, (bundleWith d T rest).target doc s = some q → GoodAll q ∧ "$ref" ∉ q.2)
    (hsteps : ∀ kv ∈ refs.filter (fun kv => Str.hasPrefix (o.basePath ++ "#/definitions") kv.2), StepOK d T (normStep x kv))
    (hpw : ((refs.filter fun kv => Str.hasPrefix (o.basePath ++ "#/definitions") kv.2).map (normStep x)).Pairwise Apart)
    (hk : keysCanon d = true) (had : RSetting.AdequateOn GoodAll (bundleWith d T rest) hops) :
    ∀ n p, (∀ kv ∈ refs.filter (fun kv => Str.hasPrefix (o.basePath ++ "#/definitions") kv.2),
        Good (Replace.keyTokens kv.1) p) →
      GoodAll p → unfold (bundleWith d T rest) hops n p = unfold (bundleWith dn T rest) hops n p :=
  fun n p hg hga =>
    applySteps_preserves T rest hops hpos _ d dn (normalize_loop_steps x _ d dn h) hT
      (fun s hs => by obtain ⟨kv, hkv, rfl⟩ := List.mem_map.1 hs; exact hsteps kv hkv) hpw hk had n p
      (fun s hs => by obtain ⟨kv, hkv, rfl⟩ := List.mem_map.1 hs; exact hg kv hkv) hga

/-- the general form: any sequence of re-targetings to the same position, on token paths -/
theorem retarget_sequence_preserves_meaning (T : List (String × Pos)) (rest : Bundle) (hops : Nat) (hpos : 0 < hops)
    (steps : List Step) (d0 dn : J) (h : applySteps steps d0 = some dn)
    (hT : ∀ doc s q, (bundleWith d0 T rest).target doc s = some q → GoodAll q ∧ "$ref" ∉ q.2)
    (hsteps : ∀ s ∈ steps, StepOK d0 T s) (hpw : steps.Pairwise Apart) (hk : keysCanon d0 = true)
    (had : RSetting.AdequateOn GoodAll (bundleWith d0 T rest) hops) :
    ∀ n p, (∀ s ∈ steps, Good s.toks p) → GoodAll p →
      unfold (bundleWith d0 T rest) hops n p = unfold (bundleWith dn T rest) hops n p :=
  applySteps_preserves T rest hops hpos steps d0 dn h hT hsteps hpw hk had

/-- The general composition: a run of re-targetings, each of which meets the hypotheses of
    `retarget_preserves_meaning` *in the document it is applied to* (what `DeepestRef` guarantees for the steps of
    `namePointers` and of `Name`: `Proofs.DeepestReaches.deepestRef_reaches`), preserves the meaning of every position
    that is good for all its keys.  What is threaded through the run by proof: canonical keys, adequacy of the hop
    bound. -/
theorem retarget_run_preserves_meaning (T : List (String × Pos)) (rest : Bundle) (hops : Nat) (hpos : 0 < hops)
    {d0 dn : J} {steps : List Step} (hrun : RetargetRun T rest d0 steps dn)
    (hT : ∀ doc s q, (bundleWith d0 T rest).target doc s = some q → GoodAll q ∧ "$ref" ∉ q.2)
    (hk : keysCanon d0 = true) (had : RSetting.AdequateOn GoodAll (bundleWith d0 T rest) hops) :
    ∀ n p, (∀ s ∈ steps, Good s.toks p) → GoodAll p →
      unfold (bundleWith d0 T rest) hops n p = unfold (bundleWith dn T rest) hops n p :=
  retargetRun_preserves T rest hops hpos hrun hT hk had

end C01
