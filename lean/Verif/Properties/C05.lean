import Verif.Properties.C08
import Verif.Proofs.RemoveUnusedDangling

/-!
# C05 — Expand mode: a `$ref`-free document stays `$ref`-free (phase model)

In Expand mode phase 1 is `spec.ExpandSpec` on the whole document (a library call, not modelled; its
output is validated per run: every remaining `$ref` is local and the meaning is preserved).  What the
rest of the pipeline does to its result is modelled: when the expansion left no `$ref` at all — the
case of a bundle without reference cycle — every later phase (`normalizeRef`, the import loop,
`namePointers`, `stripOAIGen`, the fixpoint loop) is the identity, for every document and fuel, and every
external-function table that answers for the operations of the document (`hops`).  So the `$ref`-free,
byte-for-byte reproducible output of the expansion is the output of Flatten.  With RemoveUnused the shared sections and the (now unreferenced) definitions are
removed and the result is still `$ref`-free (`refFree_removeUnused`).
-/

namespace C05
open Flatten

/-- the analyzer sees no `$ref` in the document (by C11: the document holds none on any position
    that can carry one) -/
def RefFree (fc : Facts) (d : J) : Prop := Proofs.RemoveUnusedDangling.RefFree fc d

theorem refsWhere_nil (p : String → Bool) (es : List Analyzer.Ent)
    (h : Index.refsWhere (fun _ => true) es = []) : Index.refsWhere p es = [] := by
  unfold Index.refsWhere at *
  rw [List.filterMap_eq_nil_iff] at *
  intro e he
  cases e with
  | ref kind key r => cases h _ he
  | _ => rfl

theorem refMap_nil (p : String → Bool) (es : List Analyzer.Ent)
    (h : Index.refsWhere (fun _ => true) es = []) : refMap p es = [] := by
  unfold refMap
  rw [refsWhere_nil p es h]
  rfl

theorem refFree_isNF (fc : Facts) (x : Ext) (o : Opts) (d : J) (h : RefFree fc d)
    (he : o.expand = true) (hr : o.removeUnused = false) : isNF fc x o d = true := by
  have h1 : allRefs (initial fc d).idx = [] := refMap_nil _ _ h
  have h2 : refMap (· = "schema") (initial fc d).idx = [] := refMap_nil _ _ h
  simp [isNF, nfNormalize, nfLocal, nfPointers, h1, h2, he, hr]

/-- … hence the pipeline after the expansion returns it unchanged (same document, same index, empty
    bookkeeping) -/
theorem refFree_fixed (fc : Facts) (x : Ext) (o : Opts) (fuel : Nat) (d : J)
    (ops : List (String × OpRef)) (hops : opRefsByRef x (initial fc d).idx = .ok ops)
    (h : RefFree fc d) (he : o.expand = true) (hr : o.removeUnused = false) :
    flatten fc x o (fuel + 1) (initial fc d) = .ok (initial fc d) :=
  C08.identity_on_normal_forms_multi fc x o fuel d ops hops (refFree_isNF fc x o d h he hr)

/-- with RemoveUnused: the shared sections are dropped, every phase in between is the identity, and
    the removal loop (no definition is referred to any more) returns a document that is still
    `$ref`-free — Flatten succeeds and the output holds no `$ref` at all -/
theorem refFree_removeUnused (fc : Facts) (x : Ext) (o : Opts) (fuel : Nat) (d : J)
    (ops : List (String × OpRef))
    (hops : opRefsByRef x (initial fc (RemoveUnused.removeShared d)).idx = .ok ops)
    (h : RefFree fc d) (he : o.expand = true) (hr : o.removeUnused = true) :
    ∃ s', flatten fc x o (fuel + 1) (initial fc d) = .ok s' ∧ RefFree fc s'.doc := by
  have h1 : RefFree fc (RemoveUnused.removeShared d) := Proofs.RemoveUnusedDangling.removeShared_refFree fc d h
  obtain ⟨d', hd', hfree'⟩ := Proofs.RemoveUnusedDangling.removeUnused_refFree_result fc { refName := refName x } _ h1
  refine ⟨reload fc { (initial fc (RemoveUnused.removeShared d)) with doc := d' }, ?_, hfree'⟩
  -- no `$ref`: the rewriting phases have nothing to do, before and after the shared sections are dropped
  have hall : allRefs (initial fc d).idx = [] := refMap_nil _ _ h
  have hall1 : allRefs (initial fc (RemoveUnused.removeShared d)).idx = [] := refMap_nil _ _ h1
  have hsch1 : refMap (· = "schema") (initial fc (RemoveUnused.removeShared d)).idx = [] := refMap_nil _ _ h1
  rw [Proofs.FlattenPipeline.flatten_eq, Proofs.FlattenNF.pipeline_idle fc x o fuel ops (if_pos hr)
    (by simp [nfNormalize, hall]) (Proofs.FlattenNF.importReferences_nf fc x o fuel _ (Proofs.FlattenNF.initial_inSync fc _)
      (Proofs.FlattenNF.initial_newRefs fc _) (by simp [nfLocal, hsch1]))
    hops (.inr (.inl he)) (by simp [nfPointers, hall1]), if_pos hr]
  exact OutcomeM.bind_eq_of_ok hd' rfl

/-- non-vacuity: a document without any `$ref` (an operation answering with an inline object) -/
def exampleDoc : J := .obj [
  ("paths", .obj [("/p", .obj [("get", .obj [("responses", .obj [("200", .obj [
    ("description", .str "ok"), ("schema", .obj [("type", .str "object"),
      ("properties", .obj [("a", .obj [("type", .str "string")])])])])])])])]),
  ("definitions", .obj [("unused", .obj [("type", .str "string")])])]

example : RefFree Facts.reference exampleDoc := by
  unfold RefFree Proofs.RemoveUnusedDangling.RefFree
  decide +kernel

end C05
