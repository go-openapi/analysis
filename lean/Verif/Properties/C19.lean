import Verif.Proofs.Fixer

/-!
# C19 — FixEmptyResponseDescriptions fills exactly the empty descriptions

Model: `Fixer.fix` (Verif/Model/Fixer.lean), parameterised by the facts extracted from fixer.go
(which PathItem methods the function visits; whether `FixEmptyDescs` guards a nil `*Responses`).
Spec: `Spec.Fixer` (one generic traversal of every response position, all seven methods).
-/

namespace C19
open J Spec.Fixer

structure FactsOK (f : Facts) : Prop where
  methods : ∀ k, f.fixerMethods.contains k = Doc.isMethodKey k
  guard : f.fixerNilGuard = true

/-- the call never panics, and leaves exactly the expected document: every response position
    (shared, default, status-code; under all seven methods of every path) is replaced by its
    `describe`d version and nothing else is touched — for every JSON document. -/
theorem total_and_exact (f : Facts) (h : FactsOK f) (d : J) :
    Fixer.fix f d = .ok (expected d) := by
  unfold Fixer.fix
  simp [h.guard, Proofs.Fixer.fixDoc_eq_expected _ h.methods]

theorem never_panics (f : Facts) (h : FactsOK f) (d : J) : (Fixer.fix f d).isPanic = false := by
  rw [total_and_exact f h d]; rfl

/-- loadable documents have JSON objects at response positions -/
def ResponsesAreObjects (d : J) : Prop := ∀ r ∈ allResponses d, r.isObj = true

/-- every non-$ref response has a non-empty description afterwards -/
theorem all_nonref_described (d : J) (hw : ResponsesAreObjects d) :
    postcondition (expected d) = true := by
  unfold postcondition expected
  rw [Proofs.Fixer.allResponses_map, List.all_map]
  rw [List.all_eq_true]
  intro r hr
  exact Proofs.Fixer.described_describe r (hw r hr)

/-- frame: after blanking exactly what the call may touch (the description of a non-$ref response
    when it is empty or "(empty)"), before and after are the same document -/
theorem others_untouched (d : J) :
    mapResponses blank (expected d) = mapResponses blank d := by
  unfold expected
  rw [Proofs.Fixer.mapResponses_comp, show blank ∘ describe = blank from funext Proofs.Fixer.blank_describe]

theorem sameFrame_holds (d : J) : sameFrame (expected d) d = true := by
  unfold sameFrame
  rw [beq_iff]
  exact others_untouched d

/-- responses that already have a description, or are $refs, are left as they are -/
theorem described_untouched (r : J) (h : described r = true) : describe r = r := by
  simp [describe, h]

/-- a second call changes nothing -/
theorem idempotent (d : J) : expected (expected d) = expected d := by
  unfold expected
  rw [Proofs.Fixer.mapResponses_comp, show describe ∘ describe = describe from funext Proofs.Fixer.describe_idem]

theorem idempotent_model (f : Facts) (h : FactsOK f) (d d' : J) (h1 : Fixer.fix f d = .ok d') :
    Fixer.fix f d' = .ok d' := by
  rw [total_and_exact f h d] at h1
  cases h1
  rw [total_and_exact f h, idempotent]

/-- without the nil guard the model panics on an operation that has no `responses` (defect D3):
    the hypothesis `guard` is necessary -/
theorem panics_without_guard :
    (Fixer.fix { Facts.reference with fixerNilGuard := false }
      (.obj [("paths", .obj [("/a", .obj [("get", .obj [("operationId", .str "getA")])])])])).isPanic = true := by
  decide

/-- non-vacuity: a concrete document with an empty description under `options` meets the
    hypotheses and is changed by the call -/
example :
    let d : J := .obj [("paths", .obj [("/a", .obj [("options", .obj [("responses",
      .obj [("200", .obj [("description", .str "")])])])])])]
    (∀ r ∈ allResponses d, r.isObj = true) ∧ postcondition d = false ∧ postcondition (expected d) = true := by
  decide

end C19
