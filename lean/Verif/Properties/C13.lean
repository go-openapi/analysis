import Verif.Properties.C11

/-!
# C13 — pattern and enum indexes are complete and correctly classified
-/

namespace C13
open J Spec.Index

theorem patCats_nodup (d : J) : ((patCats d).map (·.1)).Nodup := by
  show Index.cats.Nodup
  decide +kernel

/-- as `C11.refs_exact`, for the pattern index and the categories of `patCats` -/
theorem patterns_exact (f : Facts) (hf : C11.FactsOK f) (d : J) (hwf : C11.WF d)
    (cat : String) (ps : List Pos) (hk : (cat, ps) ∈ patCats d) :
    (Index.patternsWhere (· = cat) (Analyzer.analyze f d)).Perm (patternsOf ps) := by
  have := IndexProof.patternsWhere_perm f hf.methods hf.defaultHeaderEnums d hwf.toProof (· = cat)
  rwa [List.filter_key_of_mem (·.1) (patCats_nodup d) hk, List.flatMap_singleton] at this

/-- the same for the enum index -/
theorem enums_exact (f : Facts) (hf : C11.FactsOK f) (d : J) (hwf : C11.WF d)
    (cat : String) (ps : List Pos) (hk : (cat, ps) ∈ patCats d) :
    (Index.enumsWhere (· = cat) (Analyzer.analyze f d)).Perm (enumsOf ps) := by
  have := IndexProof.enumsWhere_perm f hf.methods hf.defaultHeaderEnums d hwf.toProof (· = cat)
  rwa [List.filter_key_of_mem (·.1) (patCats_nodup d) hk, List.flatMap_singleton] at this

/-- as `C11.allRefs_exact`, for the pattern index -/
theorem allPatterns_exact (f : Facts) (hf : C11.FactsOK f) (d : J) (hwf : C11.WF d) :
    (Index.patternsWhere (fun _ => true) (Analyzer.analyze f d)).Perm ((patCats d).flatMap fun cp => patternsOf cp.2) := by
  have := IndexProof.patternsWhere_perm f hf.methods hf.defaultHeaderEnums d hwf.toProof (fun _ => true)
  rwa [List.filter_eq_self.2 fun _ _ => rfl] at this

/-- the same for the enum index -/
theorem allEnums_exact (f : Facts) (hf : C11.FactsOK f) (d : J) (hwf : C11.WF d) :
    (Index.enumsWhere (fun _ => true) (Analyzer.analyze f d)).Perm ((patCats d).flatMap fun cp => enumsOf cp.2) := by
  have := IndexProof.enumsWhere_perm f hf.methods hf.defaultHeaderEnums d hwf.toProof (fun _ => true)
  rwa [List.filter_eq_self.2 fun _ _ => rfl] at this

/-- without the registration in `analyzeDefaultResponse` (defect D1) the enum of a header of a
    default response is missing: the hypothesis `defaultHeaderEnums` is necessary -/
theorem default_header_enum_needed :
    let d : J := .obj [("paths", .obj [("/a", .obj [("get", .obj [("responses", .obj [("default",
      .obj [("headers", .obj [("X-H", .obj [("enum", .arr [.str "a"])])])])])])])])]
    (Index.enumsWhere (· = "header") (Analyzer.analyze { Facts.reference with defaultHeaderEnums := false } d)) = [] ∧
    (enumsOf (headers d)).length = 1 := by
  decide +kernel

end C13
