import Verif.Proofs.RetargetModel

/-!
# C01 — the hypotheses of the re-targeting and in-place expansion theorems can be met

`K → P → N`: the definition `K` is a `$ref` to `P`, which is a `$ref` to `N`.  Re-targeting `K` to `N`
(`UpdateRef(#/definitions/K, #/definitions/N)`, here as the recursion `updR` on the token path, which
`Proofs.UpdateComm.updateRef_ok_iff` shows to be `Replace.updateRef`) satisfies every hypothesis of
`Proofs.RetargetModel.updR_retarget_preserves`, with the hop bound 3.
-/

namespace C01.RetargetExample
open J Replace Spec.Meaning Proofs.Bisim Proofs.Retarget Proofs.RetargetModel Proofs.Move Proofs.MoveBase Proofs.UpdateComm

def d : J := .obj [("definitions", .obj [
  ("N", .obj [("type", .str "object")]),
  ("P", .obj [("$ref", .str "#/definitions/N")]),
  ("K", .obj [("$ref", .str "#/definitions/P")])])]

def d' : J := .obj [("definitions", .obj [
  ("N", .obj [("type", .str "object")]),
  ("P", .obj [("$ref", .str "#/definitions/N")]),
  ("K", .obj [("$ref", .str "#/definitions/N")])])]

def posN : Pos := ("", ["definitions", "N"])
def posP : Pos := ("", ["definitions", "P"])
def T : List (String × Pos) := [("#/definitions/N", posN), ("#/definitions/P", posP)]
def rest : Bundle := { docs := [], refs := [] }
def b : Bundle := bundleWith d T rest

theorem upd : updR "#/definitions/N" .swagger d ["definitions", "K"] = some d' := by rfl

theorem chaseN (k : Nat) : chase b (k + 1) posN = some posN :=
  chase_end ⟨.obj [("type", .str "object")], rfl, rfl⟩ k

theorem hopP : Hop b posP posN := ⟨.obj [("$ref", .str "#/definitions/N")], rfl, by decide, rfl⟩

theorem chaseP (k : Nat) : chase b (k + 2) posP = some posN := (chase_hop hopP (k + 1)).trans (chaseN k)

theorem target_cases (doc s : String) (q : Pos) (h : b.target doc s = some q) : q = posN ∨ q = posP := by
  have hm : (s, q) ∈ T := target_mem h
  simp only [T, List.mem_cons, Prod.mk.injEq, List.mem_nil_iff, or_false] at hm
  exact hm.imp And.right And.right

theorem adequate : RSetting.Adequate b 3 := by
  refine RSetting.adequate_of_targets fun doc s q h => ?_
  obtain rfl | rfl := target_cases doc s q h
  · exact ⟨posN, chaseN 1⟩
  · exact ⟨posN, chaseP 0⟩

theorem canonK : AllCanon ["definitions", "K"] := allCanon_of_all (by decide)

theorem keysOK : keysCanon d = true := by decide

theorem goodI (doc s : String) (q : Pos) (h : b.target doc s = some q) : Proofs.InlineModel.GoodI ["definitions", "K"] q := by
  obtain rfl | rfl := target_cases doc s q h <;> exact Or.inr ⟨allCanon_of_all (by decide), by decide⟩

/-- every hypothesis of the re-targeting theorem holds for `K → P → N`, so every good position — `K` itself, for
    instance — denotes the same tree before and after -/
theorem example_applies : ∀ n, unfold b 3 n ("", ["definitions", "K"]) =
    unfold (bundleWith d' T rest) 3 n ("", ["definitions", "K"]) := fun n =>
  -- `N` lies on the chain that starts at `P`
  updR_retarget_preserves d d' ["definitions", "K"] "#/definitions/N" upd T rest
    (.obj [("$ref", .str "#/definitions/P")]) rfl (by decide) (by decide) posP posN rfl rfl (.of_hop hopP (.refl _)) canonK
    keysOK (fun doc s q h => (goodI doc s q h).mono (List.prefix_append _ _)) 3 adequate n _ (Or.inr ⟨canonK, by decide⟩)

/-! ### in-place expansion: `K` replaced by a copy of the schema its chain ends at (`N`) -/

def dInl : J := .obj [("definitions", .obj [
  ("N", .obj [("type", .str "object")]),
  ("P", .obj [("$ref", .str "#/definitions/N")]),
  ("K", .obj [("type", .str "object")])])]

theorem setInl : setAt d ["definitions", "K"] (.obj [("type", .str "object")]) = some dInl := by rfl

/-- every hypothesis of the in-place expansion theorem holds as well: `K` denotes the same tree before and after, and
    what lies below `K` afterwards is what lay below `N` -/
theorem example_inline_applies :
    (∀ n, unfold b 3 n ("", ["definitions", "K"]) = unfold (bundleWith dInl T rest) 3 n ("", ["definitions", "K"])) ∧
    (∀ n t, unfold b 3 n ("", ["definitions", "N"] ++ t) =
      unfold (bundleWith dInl T rest) 3 n ("", ["definitions", "K"] ++ t)) := by
  have := Proofs.InlineModel.setAt_inline_preserves d dInl ["definitions", "K"] (.obj [("type", .str "object")]) setInl T rest
    (.obj [("$ref", .str "#/definitions/P")]) rfl (by decide) ["definitions", "N"] rfl ⟨_, rfl⟩ (by decide) posP rfl
    (.of_hop hopP (.refl _)) canonK keysOK (fun doc s q h => Or.inl (goodI doc s q h)) 3 adequate (by decide)
  exact ⟨fun n => this.1 n _ (Or.inr rfl), fun n t => this.2 n t⟩

end C01.RetargetExample
