import Verif.Properties.C17

/-!
# C17 — why three statements carry an added hypothesis

Each theorem below exhibits inputs for which the statement *without* the added hypothesis fails for
the model as written.  They are checked by evaluation in the kernel (`decide +kernel`).
-/

namespace C17.Counterexamples
open J Spec.Mixin

def f0 : Facts := Facts.reference

/-- the document and the number of reports the model returns (`null`, 0 on a panic) -/
def run (f : Facts) (p : J) (ms : List J) : J × Nat :=
  match Mixin.mixin f p ms with
  | .ok r => (r.1, r.2.length)
  | _ => (.null, 0)

/-! ### warnings_count without `DistinctKeys`: a key repeated inside one mixin -/

def pEmpty : J := .obj []
def mDup : J := .obj [("definitions", .obj [("a", .num 1), ("a", .num 2)])]

/-- the model reports 1 collision, the specification counts 0 -/
theorem warnings_needs_distinct_keys :
    (run f0 pEmpty [mDup]).2 = 1 ∧ expectedWarnings [pEmpty, mDup] = 0 ∧ ¬ DistinctKeys mDup := by
  decide +kernel

/-! ### warnings_count / scalars_filled_from_first without `objAlong`: `"info": 5` in the primary -/

def pInfo5 : J := .obj [("info", .num 5)]
def mExt : J := .obj [("info", .obj [("x-a", .num 1)])]
def mTitle : J := .obj [("info", .obj [("title", .str "t")])]

/-- the model reports 0 collisions, the specification counts 1 (between the two mixins) -/
theorem warnings_needs_objects :
    (run f0 pInfo5 [mExt, mExt]).2 = 0 ∧ expectedWarnings [pInfo5, mExt, mExt] = 1 ∧
    objAlong ["info", "contact"] (some pInfo5) = false := by
  decide +kernel

/-- the title stays empty although the mixin has one -/
theorem scalars_needs_objects :
    strAt ["info"] "title" (run f0 pInfo5 [mTitle]).1 = "" ∧
    firstNonEmpty ["info"] "title" [pInfo5, mTitle] = "t" ∧
    objAlong ["info"] (some pInfo5) = false := by
  decide +kernel

/-! ### paths_first_wins when `pathItemOps` collects a field that is not an operation -/

def fX : Facts := { f0 with mixinMethods := ["x"] }
def pA : J := .obj [("paths", .obj [("/p", .obj [("x", .obj [("operationId", .str "a")])])])]
def mA : J := .obj [("paths", .obj [("/a", .obj [("x", .obj [("operationId", .str "a")])])])]

/-- the id under "x" is renamed to "aMixin0", and `stripOpIds` does not look under "x" -/
theorem paths_needs_methods :
    ((lookup "/a" (Doc.pathItems (run fX pA [mA]).1)).map stripOpIds).map (fun pi => (pi.getObj "x").map (·.1))
      = some ["operationId"] ∧
    (((lookup "/a" (Doc.pathItems (run fX pA [mA]).1)).map stripOpIds).bind (·.get? "x")).map (·.getStr "operationId")
      = some "aMixin0" ∧
    (((firstWins [pA, mA] "paths" "/a").map stripOpIds).bind (·.get? "x")).map (·.getStr "operationId")
      = some "a" := by
  decide +kernel

/-! ### the added hypotheses are satisfiable (and hold for the reference facts) -/

def mGood : J :=
  .obj [("info", .obj [("title", .str "t"), ("x-a", .num 1), ("contact", .obj [("name", .str "n")])]),
        ("definitions", .obj [("a", .num 1), ("b", .num 2)]),
        ("paths", .obj [("/a", .obj [("get", .obj [("operationId", .str "a")])])]),
        ("x-b", .num 2)]

theorem hypotheses_satisfiable :
    (∀ m ∈ Facts.reference.mixinMethods, Doc.isMethodKey m = true) ∧
    (∀ pk ∈ scalarFields, objAlong pk.1 (some mGood) = true) ∧
    DistinctKeys mGood := by
  decide +kernel

end C17.Counterexamples
