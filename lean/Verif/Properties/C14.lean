import Verif.Proofs.Ops
import Verif.Properties.C11

/-!
# C14 — operation lookups agree with the document

Model: `Ops` (the index `s.operations` as `analyzeOperation` builds it from the methods extracted
from analyzer.go, and the query methods).  Spec: `Spec.Ops` (decision tables over the document).
-/

namespace C14
open J

structure FactsOK (f : Facts) : Prop where
  methods : f.analyzerMethods.Perm (Doc.methods.map fun m => (Str.toUpperAscii m, m))

/-- the paths object is a map: distinct keys -/
def PathsNodup (d : J) : Prop := ((Doc.pathItems d).map (·.1)).Nodup

/-- lookup by method (case-insensitive, ASCII) and path finds exactly the operation the document
    has there, for exactly the seven methods -/
theorem operationFor_exact (f : Facts) (hf : FactsOK f) (d : J) (hn : PathsNodup d) (method path : String) :
    Ops.operationFor f d method path = Spec.Ops.operationFor d method path :=
  Proofs.Ops.operationFor_exact f hf.methods d hn method path

/-- case-insensitivity said outright: two spellings of a method that agree after ASCII upper-casing designate the same
    operation (`GET`, `get`, `gEt`) -/
theorem operationFor_case_insensitive (f : Facts) (hf : FactsOK f) (d : J) (hn : PathsNodup d)
    (m₁ m₂ path : String) (h : Str.toUpperAscii m₁ = Str.toUpperAscii m₂) :
    Ops.operationFor f d m₁ path = Ops.operationFor f d m₂ path := by
  rw [operationFor_exact f hf d hn, operationFor_exact f hf d hn]
  unfold Spec.Ops.operationFor Spec.Ops.theMethod
  rw [h]

/-- a method name that is none of the seven designates no operation, whatever the document holds under that key -/
theorem operationFor_unknown_method (f : Facts) (hf : FactsOK f) (d : J) (hn : PathsNodup d)
    (method path : String) (h : Spec.Ops.theMethod method = none) :
    Ops.operationFor f d method path = none := by
  rw [operationFor_exact f hf d hn]
  unfold Spec.Ops.operationFor
  rw [h]; rfl

-- the hypotheses of the two theorems above are met (not vacuous)
example : Str.toUpperAscii "gEt" = Str.toUpperAscii "GET" := by decide
example : Spec.Ops.theMethod "TRACE" = none := by decide

/-- the operations the analyzer knows are those of the document, under all seven methods -/
theorem operations_perm (f : Facts) (hf : FactsOK f) (d : J) :
    (Ops.operations f d).Perm (Spec.Ops.allOps d) :=
  Proofs.Ops.operations_perm f hf.methods d

/-- lookup by id: for an id carried by exactly one operation the analyzer returns that operation
    with its method and path, whatever the iteration order -/
theorem operationForName_unique (f : Facts) (hf : FactsOK f) (d : J) (id : String)
    (hu : ((Spec.Ops.allOps d).filter fun o => Spec.Ops.idOf o = id).length = 1) :
    Ops.operationForName f d id = Spec.Ops.operationForName d id :=
  Proofs.Ops.operationForName_unique f hf.methods d id hu

theorem operationForName_unknown (f : Facts) (hf : FactsOK f) (d : J) (id : String)
    (hu : ((Spec.Ops.allOps d).filter fun o => Spec.Ops.idOf o = id) = []) :
    Ops.operationForName f d id = none :=
  List.find?_eq_none.2 fun o ho => List.filter_eq_nil_iff.1 hu o ((operations_perm f hf d).mem_iff.1 ho)

theorem listing_perm (f : Facts) (hf : FactsOK f) (d : J) {g g' : String × String × J → String}
    (h : ∀ o ∈ Spec.Ops.allOps d, g o = g' o) :
    ((Ops.operations f d).map g).Perm ((Spec.Ops.allOps d).map g') :=
  ((operations_perm f hf d).map g).trans (.of_eq (List.map_congr_left h))

/-- the id listing and the 'METHOD path' listing are those of the document, with multiplicity -/
theorem ids_perm (f : Facts) (hf : FactsOK f) (d : J) :
    (Ops.operationIDs f d).Perm (Spec.Ops.ids d) :=
  listing_perm f hf d fun o ho => by
    by_cases he : o.2.2.getStr "operationId" = "" <;>
      simp [Ops.methodPath, Proofs.Ops.upper_of_mem_allOps ho, Spec.Ops.idOf, he]

theorem methodPaths_perm (f : Facts) (hf : FactsOK f) (d : J) :
    (Ops.operationMethodPaths f d).Perm (Spec.Ops.methodPaths d) :=
  listing_perm f hf d fun o ho => by rw [Ops.methodPath, Proofs.Ops.upper_of_mem_allOps ho]

/-- consumes / produces: the operation's own list when non-empty, the document's otherwise (as a set) -/
theorem mediaFor_rule (k : String) (d op : J) :
    (Ops.mediaFor k d op).Nodup ∧ ∀ x, x ∈ Ops.mediaFor k d op ↔ x ∈ Spec.Ops.mediaFor k d op := by
  unfold Ops.mediaFor Spec.Ops.mediaFor
  by_cases h : op.getStrs k = [] <;> simp [h, List.nodup_eraseDups, List.mem_eraseDups]

/-- security requirements: the operation's when it declares any (an empty list disables security),
    the document's otherwise -/
theorem securityRequirements_rule (d op : J) :
    Ops.securityRequirementsFor d op = (Spec.Ops.securityInForce d op).map fun reqs => reqs.map Ops.reqsOf := by
  unfold Ops.securityRequirementsFor Spec.Ops.securityInForce
  split <;> split <;> simp_all

/-- an explicitly empty operation-level list yields no requirement at all -/
theorem empty_security_disables (d op : J) (h : op.get? "security" = some (.arr [])) :
    Ops.securityRequirementsFor d op = some [] ∧ Ops.securityDefinitionsFor d op = none := by
  have h1 : Ops.securityRequirementsFor d op = some [] := by
    rw [securityRequirements_rule]; simp [Spec.Ops.securityInForce, h]
  exact ⟨h1, by simp [Ops.securityDefinitionsFor, h1]⟩

/-- a view `g` of the analyzer's log that reads only the string-set entries, `names` being what it reads off
    the document and off each operation: it reports exactly the union over the document and its operations -/
theorem required_union (g : Analyzer.Ent → Option String) (names : J → List String)
    (hg : ∀ e, IndexProof.isSetEnt e = false → g e = none)
    (hs : ∀ n, (IndexProof.setsOf n).filterMap g = names n)
    (f : Facts) (hf : C11.FactsOK f) (d : J) (hwf : C11.WF d) (s : String) :
    s ∈ (Analyzer.analyze f d).filterMap g ↔ s ∈ names d ∨ ∃ o ∈ Spec.Index.operations d, s ∈ names o.2.2.2 := by
  have hl := IndexProof.analyze_perm_specLog f hf.methods hf.defaultHeaderEnums d hwf.toProof
  -- up to order the log is `junk d ++ specLog d`; `g` is `none` on `specLog` and on the `.op` entries of `junk`, which
  -- leaves the sets of the document and of each operation
  simp only [(IndexProof.setView_perm hl g hg).mem_iff, IndexProof.junk_filterMap g (fun _ _ _ => hg _ rfl), hs,
    List.mem_append, List.mem_flatMap]

/-- `RequiredConsumes()` / `RequiredProduces()` / `RequiredSecuritySchemes()` read the string sets of the
    analyzer.  A media type is reported iff the document or one of its operations (under any of the seven
    methods) lists it; a security scheme is reported iff a requirement of the document or of an operation
    names it.  (C11's well-formedness of names is only needed to reuse the decomposition of the log.) -/
theorem required_consumes_union (f : Facts) (hf : C11.FactsOK f) (d : J) (hwf : C11.WF d) (s : String) :
    s ∈ (Analyzer.analyze f d).filterMap IndexProof.selConsumes ↔
      s ∈ d.getStrs "consumes" ∨ ∃ o ∈ Spec.Index.operations d, s ∈ o.2.2.2.getStrs "consumes" :=
  required_union IndexProof.selConsumes (·.getStrs "consumes")
    (fun e he => by cases e <;> first | rfl | cases he) IndexProof.setsOf_consumes f hf d hwf s

theorem required_produces_union (f : Facts) (hf : C11.FactsOK f) (d : J) (hwf : C11.WF d) (s : String) :
    s ∈ (Analyzer.analyze f d).filterMap IndexProof.selProduces ↔
      s ∈ d.getStrs "produces" ∨ ∃ o ∈ Spec.Index.operations d, s ∈ o.2.2.2.getStrs "produces" :=
  required_union IndexProof.selProduces (·.getStrs "produces")
    (fun e he => by cases e <;> first | rfl | cases he) IndexProof.setsOf_produces f hf d hwf s

theorem required_security_union (f : Facts) (hf : C11.FactsOK f) (d : J) (hwf : C11.WF d) (s : String) :
    s ∈ (Analyzer.analyze f d).filterMap IndexProof.selAuth ↔
      s ∈ IndexProof.authNames d ∨ ∃ o ∈ Spec.Index.operations d, s ∈ IndexProof.authNames o.2.2.2 :=
  required_union IndexProof.selAuth IndexProof.authNames
    (fun e he => by cases e <;> first | rfl | cases he) IndexProof.setsOf_auth f hf d hwf s

end C14
