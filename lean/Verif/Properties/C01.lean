import Verif.Proofs.Cert
import Verif.Proofs.Bisim

/-!
# C01 — Flatten preserves the meaning of the API (verified validator)

`Spec.Meaning`: the meaning of a position of a bundle is the tree obtained by following every `$ref`
(`unfold n` = its depth-n approximation; `MeaningEq` = all approximations equal = bisimilarity of the
possibly infinite trees).  `Cert.checkCert` accepts a finite relation between positions of the
input bundle and positions of the output when every pair agrees locally and the relation is closed
under corresponding children.  `cert_sound`: every pair of an accepted relation has the same
meaning — for all bundles, relations, hop bounds (no bound on sizes or depths).
What is *not* proved: that Flatten's output always admits such a relation; that is decided per run.
-/

namespace C01
open J Spec.Meaning Cert

theorem cert_sound (b1 b2 : Bundle) (hops : Nat) (R : Rel) (h : checkCert b1 b2 hops R = true) :
    ∀ p q, R.has p q = true → MeaningEq b1 b2 hops p q :=
  fun p q hpq n =>
    Proofs.Bisim.bisim_sound b1 b2 hops hops _ (fun p q hpq =>
      Proofs.Cert.stepOK_of_pairOK (List.all_eq_true.1 h (p, q) ((Proofs.Cert.has_iff R p q).1 hpq))) n p q hpq

/-- for an accepted relation (what `Cert.search` returns, say) the start pairs found in it have the same meaning -/
theorem validated_start_pairs (b1 b2 : Bundle) (hops : Nat) (R : Rel) (start : List (Pos × Pos))
    (h : checkCert b1 b2 hops R = true) (hs : start.all (fun pq => R.has pq.1 pq.2) = true) :
    ∀ pq ∈ start, MeaningEq b1 b2 hops pq.1 pq.2 := by
  intro pq hpq
  rw [List.all_eq_true] at hs
  exact cert_sound b1 b2 hops R h pq.1 pq.2 (hs pq hpq)

/-- The same argument for a relation given as a predicate (possibly infinite), with separate bounds
    on the two sides for following `$ref` chains: if every related pair steps — after following
    `$ref`s — to nodes that agree locally and whose corresponding children are related again, related
    positions have the same unfolding at every depth.  This is the proof principle for meaning
    preservation of a single rewrite (a naming move adds one `$ref` hop on the rewritten side). -/
theorem bisim_sound (b1 b2 : Bundle) (h1 h2 : Nat) (R : Pos → Pos → Prop)
    (h : ∀ p q, R p q → Proofs.Bisim.StepOK b1 b2 h1 h2 R p q) :
    ∀ n p q, R p q → unfold b1 h1 n p = unfold b2 h2 n q :=
  Proofs.Bisim.bisim_sound b1 b2 h1 h2 R h

/-- non-vacuity: a recursive definition `A = {p: $ref A}` and its one-step unrolling
    `B = {p: {p: $ref B}}` are related by an accepted two-pair certificate -/
theorem example_accepts :
    let refA : J := .obj [("$ref", .str "#/definitions/A")]
    let refB : J := .obj [("$ref", .str "#/definitions/B")]
    let b1 : Bundle := {
      docs := [("", .obj [("definitions", .obj [("A", .obj [("p", refA)])])])]
      refs := [("", [("#/definitions/A", ("", ["definitions", "A"]))])] }
    let b2 : Bundle := {
      docs := [("", .obj [("definitions", .obj [("B", .obj [("p", .obj [("p", refB)])])])])]
      refs := [("", [("#/definitions/B", ("", ["definitions", "B"]))])] }
    let R : Rel := [((("", ["definitions", "A"]) : Pos), (("", ["definitions", "B"]) : Pos)),
                    ((("", ["definitions", "A", "p"]) : Pos), (("", ["definitions", "B", "p"]) : Pos)),
                    ((("", ["definitions", "A", "p"]) : Pos), (("", ["definitions", "B", "p", "p"]) : Pos))]
    checkCert b1 b2 8 R = true := by
  decide

/-- the checker is not vacuous the other way either: it rejects a relation pairing different scalars -/
theorem example_rejects :
    let b1 : Bundle := { docs := [("", .obj [("a", .str "x")])], refs := [] }
    let b2 : Bundle := { docs := [("", .obj [("a", .str "y")])], refs := [] }
    checkCert b1 b2 8 [((("", ["a"]) : Pos), (("", ["a"]) : Pos))] = false := by
  decide

end C01
