import Verif.Proofs.FlattenPipeline
import Verif.Proofs.RemoveUnusedDangling

/-!
# C06 — RemoveUnused removes exactly what nothing refers to (model of the removal phases)

The third clause (no removal phase makes a `$ref` dangle) holds because the analysis is monotone in the document
(Proofs/RemoveUnusedDangling.lean).
-/

namespace C06
open J RemoveUnused

/-- `removeUnusedShared` empties the shared sections and touches nothing else -/
theorem shared_sections_empty (d : J) :
    (removeShared d).getObj "parameters" = [] ∧ (removeShared d).getObj "responses" = [] ∧
    ∀ k, k ≠ "parameters" → k ≠ "responses" → (removeShared d).get? k = d.get? k := by
  refine ⟨?_, ?_, Proofs.RemoveUnused.get?_removeShared_ne d⟩
  · exact getObj_of_get?_none _ _ (Proofs.RemoveUnused.get?_removeShared_parameters d)
  · exact getObj_of_get?_none _ _ (Proofs.RemoveUnused.get?_removeShared_responses d)

/-- one pass keeps exactly the definitions some schema `$ref` designates, in their order -/
theorem singlePass_keeps_used (f : Facts) (x : Ext) (d : J) (hd : d.isObj = true) :
    (singlePass f x d).1.getObj "definitions" =
      (d.getObj "definitions").filter fun kv => (usedNames f x d).contains kv.1 := by
  have _ := hd  -- not needed: a non-object has no definitions, before and after
  exact Proofs.RemoveUnused.singlePass_getObj f x d

/-- a pass changes nothing but the definitions section -/
theorem singlePass_frame (f : Facts) (x : Ext) (d : J) (k : String) (hk : k ≠ "definitions") :
    (singlePass f x d).1.get? k = d.get? k :=
  Proofs.RemoveUnused.singlePass_get?_ne f x d k hk

/-- the removal loop terminates: every productive pass strictly shrinks the definitions, so
    `|definitions| + 1` rounds suffice — whatever characters the names contain -/
theorem terminates (f : Facts) (x : Ext) (d : J) (fuel : Nat) (hfuel : fuel ≥ (d.getObj "definitions").length + 1) :
    removeUnused f x fuel d ≠ .outOfFuel := by
  obtain ⟨d', h⟩ := Proofs.RemoveUnused.removeUnused_terminates f x fuel d hfuel
  rw [h]
  nofun

/-- when the loop stops, every remaining definition is referred to by some schema `$ref` of the
    resulting document -/
theorem remaining_all_referenced (f : Facts) (x : Ext) (d d' : J) (fuel : Nat) (hd : d.isObj = true)
    (h : removeUnused f x fuel d = .ok d') :
    ∀ kv ∈ d'.getObj "definitions", (usedNames f x d').contains kv.1 = true := by
  have _ := hd  -- not needed: the loop invariant holds for every JSON value
  intro kv hkv
  have h1 := (Proofs.RemoveUnused.removeUnused_ok f x fuel d d' h).1
  rw [← h1] at hkv
  exact (List.mem_filter.1 hkv).2

/-- nothing else is touched, and the remaining definitions are a sub-list of the original ones -/
theorem only_definitions_shrink (f : Facts) (x : Ext) (d d' : J) (fuel : Nat) (hd : d.isObj = true)
    (h : removeUnused f x fuel d = .ok d') :
    (d'.getObj "definitions").Sublist (d.getObj "definitions") ∧
    ∀ k, k ≠ "definitions" → d'.get? k = d.get? k := by
  have _ := hd  -- not needed: the loop invariant holds for every JSON value
  exact (Proofs.RemoveUnused.removeUnused_ok f x fuel d d' h).2

/-- C06 for the whole pipeline of the Flatten model (`Flatten.flattenLocal`: every phase after
    `expand`, Minimal or full mode, documents whose schema `$ref`s are local): with RemoveUnused, when
    Flatten returns normally the shared parameters and responses sections are empty and every
    remaining definition is designated by a schema `$ref` of the returned document — whatever the
    document, the names in it, the external functions and the number of loop iterations.
    (That the returned `$ref`s do not dangle and that operations keep their meaning is decided per
    run by the validators of C02 / C01.) -/
theorem pipeline_removeUnused (fc : Facts) (x : Flatten.Ext) (o : Flatten.Opts) (fuel : Nat) (s s' : Flatten.St)
    (h : Flatten.flattenLocal fc x o fuel s = .ok s') (hr : o.removeUnused = true) :
    s'.doc.getObj "parameters" = [] ∧ s'.doc.getObj "responses" = [] ∧
    ∀ kv ∈ s'.doc.getObj "definitions",
      (RemoveUnused.usedNames fc { refName := Flatten.refName x } s'.doc).contains kv.1 = true :=
  Proofs.FlattenPipeline.pipeline_removeUnused fc x o (Proofs.FlattenPipeline.importReferencesLocal_writes fc) fuel s s'
    ((Proofs.FlattenPipeline.flattenLocal_eq fc x o fuel s).symm.trans h) hr

/-- the same for `Flatten.flatten`, the pipeline with the real `importReferences` loop (bundles with
    auxiliary documents; `spec.ResolveRefWithBase` across documents is an external function): the
    import phase writes to the document only through `UpdateRef` and `Save` -/
theorem pipeline_removeUnused_multi (fc : Facts) (x : Flatten.Ext) (o : Flatten.Opts) (fuel : Nat) (s s' : Flatten.St)
    (h : Flatten.flatten fc x o fuel s = .ok s') (hr : o.removeUnused = true) :
    s'.doc.getObj "parameters" = [] ∧ s'.doc.getObj "responses" = [] ∧
    ∀ kv ∈ s'.doc.getObj "definitions",
      (RemoveUnused.usedNames fc { refName := Flatten.refName x } s'.doc).contains kv.1 = true :=
  Proofs.FlattenPipeline.pipeline_removeUnused fc x o
    (fun s s' h => (Proofs.FlattenPhases.importReferences_writes fc x o fuel s s' h).any) fuel s s'
    ((Proofs.FlattenPipeline.flatten_eq fc x o fuel s).symm.trans h) hr

/-- none of the rewriting phases can bring a shared section back: the replace primitives only
    rewrite below keys that exist -/
theorem phases_never_create_shared_sections (fc : Facts) (x : Flatten.Ext) (o : Flatten.Opts) (fuel : Nat)
    (s s' : Flatten.St) (h : Flatten.stripPointersAndOAIGen fc x o fuel s = .ok s')
    (hn : Proofs.FlattenBase.NoShared s.doc) : Proofs.FlattenBase.NoShared s'.doc :=
  (Proofs.FlattenPhases.stripPointersAndOAIGen_writes fc x o fuel s s' h).noShared hn

/-- every definition designated by a schema `$ref` of the document exists (`$ref`s of the form
    `#/definitions/<name>`: what a successful `namePointers` leaves, C02) -/
def NoDangling (f : Facts) (x : Ext) (d : J) : Prop := Proofs.RemoveUnusedDangling.NoDangling f x d

/-- C06, third clause, for the removal phases: no `$ref` starts to dangle.  One removal pass keeps
    `NoDangling`, whatever the names -/
theorem singlePass_creates_no_dangling (f : Facts) (x : Ext) (d : J) (hn : NoDangling f x d) :
    NoDangling f x (singlePass f x d).1 := by
  intro n hn'
  -- the pass leaves fewer definitions, so what is designated afterwards was designated before: it exists, and is kept
  have hdefs := Proofs.RemoveUnused.singlePass_getObj f x d
  have hsub := Proofs.RemoveUnusedDangling.usedNames_subset f x d (singlePass f x d).1 _
    (Proofs.RemoveUnused.singlePass_get?_ne f x d) hdefs n hn'
  rw [hdefs]
  obtain ⟨kv, hkv, rfl⟩ := List.mem_map.1 (hn n hsub)
  exact List.mem_map.2 ⟨kv, List.mem_filter.2 ⟨hkv, by simpa using hsub⟩, rfl⟩

theorem removal_creates_no_dangling (f : Facts) (x : Ext) (fuel : Nat) (d d' : J)
    (h : removeUnused f x fuel d = .ok d') (hn : NoDangling f x d) : NoDangling f x d' :=
  (Proofs.RemoveUnused.removeUnused_inv f x (singlePass_creates_no_dangling f x) fuel d d' h hn).1

theorem removeShared_creates_no_dangling (f : Facts) (x : Ext) (d : J) (hn : NoDangling f x d) :
    NoDangling f x (removeShared d) := by
  intro n hn'
  rw [getObj_congr _ _ _ (Proofs.RemoveUnused.get?_removeShared_ne d "definitions" (by simp) (by simp))]
  exact hn n (Proofs.RemoveUnusedDangling.usedNames_mono f x (Proofs.RemoveUnusedDangling.analyze_subset_removeShared f d) hn')

theorem removeUnused_phase_creates_no_dangling (fc : Facts) (x : Flatten.Ext) (s s' : Flatten.St)
    (h : Flatten.removeUnused fc x s = .ok s')
    (hn : NoDangling fc { refName := Flatten.refName x } s.doc) :
    NoDangling fc { refName := Flatten.refName x } s'.doc := by
  unfold Flatten.removeUnused at h
  obtain ⟨d, hd, h⟩ := OutcomeM.bind_eq_ok.1 h
  exact Outcome.ok.inj h ▸ removal_creates_no_dangling fc _ _ s.doc d hd hn

/-- the hypothesis is not vacuous, and the conclusion is not trivial: a used definition that refers to
    another keeps it alive -/
example : NoDangling Facts.reference { refName := fun r => if r = "#/definitions/a" then some "a" else if r = "#/definitions/b" then some "b" else none }
    (.obj [("paths", .obj [("/p", .obj [("get", .obj [("responses", .obj [("200", .obj [
        ("description", .str "ok"), ("schema", .obj [("$ref", .str "#/definitions/a")])])])])])]),
      ("definitions", .obj [("a", .obj [("properties", .obj [("x", .obj [("$ref", .str "#/definitions/b")])])]),
                            ("b", .obj [("type", .str "string")]), ("unused", .obj [])])]) := by
  unfold NoDangling Proofs.RemoveUnusedDangling.NoDangling
  decide +kernel

end C06
