import Verif.Proofs.IndexFinal

/-!
# C11 — the reference index is complete and sound

Model: `Analyzer.analyze` (keys built with `path.Join` / `jsonpointer.Escape` as analyzer.go does).
Spec: `Spec.Index` (one generic traversal in JSON-pointer token space).
"None missing, none invented, each with its multiplicity" is multiset equality (`List.Perm`) of the
(key, $ref) entries, per kind and for the `all` view.
-/

namespace C11
open J Spec.Index

/-- what the theorems need from the regenerated facts: `analyzeOperations` visits the seven methods,
    each under its own upper-case name; the enums of the headers of a default response are registered
    (`C13.default_header_enum_needed`) -/
structure FactsOK (f : Facts) : Prop where
  methods : f.analyzerMethods.Perm (Doc.methods.map fun m => (Str.toUpperAscii m, m))
  defaultHeaderEnums : f.defaultHeaderEnums = true
  /-- `reset()` clears every field of `Spec` that an analysis fills: after a reload the indexes speak about the document
      as it is now (what the analyze stream observes through the hook `VerifReload`) -/
  resetComplete : f.resetStale = []

/-- every position the analyzer indexes -/
def positions (d : J) : List Pos :=
  allSchemas d ++ listedParams d ++ sharedParams d ++ opResponses d ++ sharedResponses d ++ headers d ++
  paramItems d ++ headerItems d ++ pathItemPositions d

/-- well-formed documents: every token on the way to an indexed position is neither "", "." nor ".."
    (what `path.Clean` would swallow), header names need no pointer escaping (the code joins them
    unescaped), and a parameter that is not `in: body` carries no schema -/
structure WF (d : J) : Prop where
  toks : ∀ p ∈ positions d, ∀ t ∈ p.1, Str.GoodTok t
  headerNames : ∀ h ∈ headers d, Str.esc (lastTok h.1) = lastTok h.1
  bodyOnly : ∀ p ∈ listedParams d ++ sharedParams d, p.2.getStr "in" ≠ "body" → p.2.get? "schema" = none

theorem WF.toProof {d : J} (h : WF d) : IndexProof.WF' d := ⟨h.toks, h.headerNames, h.bodyOnly⟩

theorem refKinds_nodup (d : J) : ((refKinds d).map (·.1)).Nodup := by
  show Index.kinds.Nodup
  decide +kernel

/-- per kind (schema, response, parameter, pathItem, items:header, items:parameter): the indexed
    (key, $ref) pairs are exactly those of the document's positions of that kind -/
theorem refs_exact (f : Facts) (hf : FactsOK f) (d : J) (hwf : WF d)
    (kind : String) (ps : List Pos) (hk : (kind, ps) ∈ refKinds d) :
    (Index.refsWhere (· = kind) (Analyzer.analyze f d)).Perm (refsOf ps) := by
  have := IndexProof.refsWhere_perm f hf.methods hf.defaultHeaderEnums d hwf.toProof (· = kind)
  rwa [IndexProof.refsSpec_eq, List.filter_key_of_mem (·.1) (refKinds_nodup d) hk, List.flatMap_singleton] at this

/-- the `all` view is the union of the kinds, with multiplicity -/
theorem allRefs_exact (f : Facts) (hf : FactsOK f) (d : J) (hwf : WF d) :
    (Index.refsWhere (fun _ => true) (Analyzer.analyze f d)).Perm ((refKinds d).flatMap fun kp => refsOf kp.2) := by
  have := IndexProof.refsWhere_perm f hf.methods hf.defaultHeaderEnums d hwf.toProof (fun _ => true)
  rwa [IndexProof.refsSpec_eq, List.filter_eq_self.2 fun _ _ => rfl] at this

/-- the `items` view (`AllItemsReferences`: header items and parameter items together) is the union of the two items
    kinds, with multiplicity — nothing of another kind enters it, and no items `$ref` is left out of it -/
theorem itemsRefs_exact (f : Facts) (hf : FactsOK f) (d : J) (hwf : WF d) :
    (Index.refsWhere (fun k => k = "items:header" ∨ k = "items:parameter") (Analyzer.analyze f d)).Perm
      (refsOf (headerItems d) ++ refsOf (paramItems d)) := by
  have := IndexProof.refsWhere_perm f hf.methods hf.defaultHeaderEnums d hwf.toProof
    (fun k => k = "items:header" ∨ k = "items:parameter")
  simpa [IndexProof.refsSpec] using this

/-- for any insertion log, a reference view that selects more kinds holds the entries of one that selects fewer, in
    the same order -/
theorem refsWhere_mono {p q : String → Bool} (h : ∀ k, p k = true → q k = true) (es : List Analyzer.Ent) :
    (Index.refsWhere p es).Sublist (Index.refsWhere q es) := by
  refine List.filterMap_sublist_of_le (fun e b he => ?_) es
  cases e <;> simp only [reduceCtorEq] at he ⊢
  split at he
  · rwa [if_pos (h _ ‹_›)]
  · cases he

/-- `refsWhere_mono` at the two predicates `toJson` uses -/
theorem itemsRefs_sub_all (es : List Analyzer.Ent) :
    (Index.refsWhere (fun k => k = "items:header" ∨ k = "items:parameter") es).Sublist
      (Index.refsWhere (fun _ => true) es) :=
  refsWhere_mono (fun _ _ => rfl) es

end C11
